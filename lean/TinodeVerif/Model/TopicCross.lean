import TinodeVerif.Model.TopicUser
/-
Crossings: requests which are in flight while something else happens to their topic.

In the server a request travels session → hub → topic through queues (`hub.join`, `hub.unreg`, `Topic.reg`, `Topic.unreg`,
`Topic.clientMsg`, `Topic.exit`), each stage in a goroutine of its own. Everywhere else in this model a request is processed in one
piece, which is one legal schedule. Here a request can be *held*: its session has dispatched it (the synchronous part of
`Session.subscribe` / `leave` / `publish`, or the idle timer of a topic has fired) and it sits in a queue until a step takes it out:

* `hubstep` - the hub takes everything off its queues: a {sub} is handed to its topic (loaded on the way if need be), a topic is
  shut down for its owner's {del topic} (case 1.1.1 of `Hub.topicUnreg`) or for the idle timer (case 2);
* `tstep T q` - the topic (loaded, or shutting down) takes one message off one queue: `Topic.registerSession`,
  `unregisterSession`, `handleClientMsg`, `handleTopicTermination`;
* `settle` - everything queued anywhere is processed, in the fixed order of the harness.

Which queue a `select` serves next is the scheduler's choice: the steps make that choice explicit, one handler at a time.
The topic parts of {sub} {leave} {pub} are the ones of Model/TopicReq.lean (`opSub_split`, `opLeave_split`, `opPub_split` in Props/C14x.lean
say so); plain group topics only.
-/
namespace Tinode.World
open Tinode.Acs Tinode.Ranges

/-! ### the topic parts of the requests (what the topic's handler does once the message is taken off its queue) -/

/-- Topic.registerSession for a loaded topic (topic.go:331-363) -/
def Ctx.regTopicPart (c : Ctx) (r : HeldReq) : Ctx :=
  match c.w.live? r.tn with
  | none => c
  | some t =>
    if t.inactive then c.emit r.a.sid (ctrl 503 r.tn) else
    if c.w.attached r.a.sid r.tn then c.emit r.a.sid (ctrl 304 r.tn) else
    let (c, t, _) := c.subscriptionReply t r.a r.mode r.priv false false r.userGiven
    c.putLive t

/-- Topic.unregisterSession → handleLeaveRequest for a loaded topic: the part of `opLeave` after the session's own check -/
def Ctx.leaveTopicPart (c : Ctx) (a : Actor) (tn : TName) (unsub : Bool) : Ctx :=
  match c.w.live? tn with
  | none => c
  | some t =>
    if t.inactive then (if a.uid ≠ "" then c.emit a.sid (ctrl 503 tn) else c) else
    if unsub then
      let (c, t) := c.replyLeaveUnsub t a
      c.putLive t
    else
      match t.sessions.find? (·.1 = a.sid) with
      | none => c
      | some (_, suid) =>
        if suid ≠ a.uid then c else
        let t := { t with sessions := t.sessions.filter (·.1 ≠ a.sid) }
        let c := { c with w := c.w.detach a.sid tn }
        let pud := t.pud suid
        let pud := if !a.bg then { pud with online := pud.online - 1 } else pud
        let t := if !a.bg then t.setPud suid pud else t
        let c := if pud.online = (0 : Int) then c.presOnline t { what := "off", src := suid, filterIn := modeRead } else c
        (c.emit a.sid (ctrl 200 tn)).putLive t

/-- Topic.handleClientMsg → handlePubBroadcast for a loaded topic: the part of `opPub` after the session's own check -/
def Ctx.pubTopicPart (c : Ctx) (a : Actor) (tn : TName) (content : String) (head : List (String × String)) (noEcho : Bool) : Ctx :=
  match c.w.live? tn with
  | none => c
  | some t =>
    if t.inactive then c.emit a.sid (ctrl 503 tn) else
    if t.readOnly then c.emit a.sid (ctrl 403 tn) else
    let pud := t.pud a.uid
    if !isWriter (eff pud) then c.emit a.sid (ctrl 403 tn) else
    let m : MsgRow := { seq := t.lastId + 1, sender := a.uid, head := pubHead a head, content := some content }
    let (c, saved) := c.saveMessage tn m (isReader (eff pud) && a.uid ≠ "")
    match saved with
    | none => c.emit a.sid (ctrl 500 tn)
    | some marked => c.deliverPub t a m marked noEcho

/-! ### bookkeeping -/

def World.setInflight (w : World) (sid : Sid) (b : Bool) : World :=
  { w with sess := w.sess.map (fun x => if x.sid = sid then { x with inflight := b } else x) }

def World.inflight (w : World) (sid : Sid) : Bool := match w.sess? sid with | some s => s.inflight | none => false

/-- the topic a queued message belongs to: loaded, or shutting down -/
def World.anyTopic? (w : World) (tn : TName) : Option (Topic × Bool) :=
  match w.live? tn with
  | some t => some (t, false)
  | none => (w.exiting.find? (·.name = tn)).map (fun t => (t, true))

def World.setExiting (w : World) (t : Topic) : World :=
  { w with exiting := w.exiting.map (fun x => if x.name = t.name then t else x) }

/-- a message joins the queue of its topic -/
def World.enqueue (w : World) (tn : TName) (r : HeldReq) : World :=
  match w.live? tn with
  | some t => w.setLive { t with q := t.q ++ [r] }
  | none => match w.exiting.find? (·.name = tn) with
    | some t => w.setExiting { t with q := t.q ++ [r] }
    | none => w

def World.anythingHeld (w : World) : Bool :=
  !w.hubJoin.isEmpty || !w.hubUnreg.isEmpty || !w.exiting.isEmpty || w.live.any (fun t => !t.q.isEmpty)

/-! ### a request is held: the session's part -/

/-- Session.subscribe (session.go:586-648): the slot is taken, an attached session is told so, anything else goes to the hub -/
def Ctx.holdSub (c : Ctx) (r : HeldReq) : Ctx :=
  if c.w.attached r.a.sid r.tn then c.emit r.a.sid (ctrl 304 r.tn) else
  { c with w := { c.w.setInflight r.a.sid true with hubJoin := c.w.hubJoin ++ [r] } }

/-- Session.leave (session.go:650-683): an attached session's request goes straight to the topic it is attached to -/
def Ctx.holdLeave (c : Ctx) (r : HeldReq) : Ctx :=
  if !c.w.attached r.a.sid r.tn then
    if !r.unsub then c.emit r.a.sid (ctrl 304 r.tn) else c.emit r.a.sid (ctrl 409 r.tn)
  else { c with w := (c.w.setInflight r.a.sid true).enqueue r.tn r }

/-- Session.publish (session.go:685-731) -/
def Ctx.holdPub (c : Ctx) (r : HeldReq) : Ctx :=
  if !c.w.attached r.a.sid r.tn then c.emit r.a.sid (ctrl 409 r.tn)
  else { c with w := c.w.enqueue r.tn r }

/-- Session.del for a topic: the request goes to the hub (only the owner's is held here) -/
def Ctx.holdDelTopic (c : Ctx) (r : HeldReq) : Ctx := { c with w := { c.w with hubUnreg := c.w.hubUnreg ++ [r] } }

/-- the idle timer of a topic fires (handleTopicTimeout, topic.go:493-503): the hub is asked to unload the topic, the subscribers
are told on `me` that it is offline -/
def Ctx.holdUnload (c : Ctx) (tn : TName) : Ctx × String :=
  match c.w.live? tn with
  | none => (c, "notloaded")
  | some t =>
    if !t.sessions.isEmpty then (c, "busy") else
    let timer : HeldReq := { kind := "unload", a := { sid := "", sessUid := "", uid := "", lvl := .auth, bg := false }, tn := tn }
    let c := { c with w := { c.w with hubUnreg := c.w.hubUnreg ++ [timer] } }
    (c.presSubsOffline t "off" "" "" "" 0 0 { what := "off" } "" false, "")

/-! ### the hub takes its queues -/

/-- hub.join (hub.go:154-221): the topic is found or loaded; an inactive one refuses (the slot is released); otherwise the request
joins the topic's queue -/
def Ctx.hubJoinOne (c : Ctx) (r : HeldReq) : Ctx :=
  let (c, ot) := c.joinTopic r.a r.tn
  match ot with
  | none => { c with w := c.w.setInflight r.a.sid false }
  | some _ => { c with w := c.w.enqueue r.tn r }

/-- hub.unreg (hub.go:280-293, Hub.topicUnreg): the owner's {del topic} on a loaded topic - case 1.1.1: paused, deleted in the
store, acknowledged, taken off the hub, told to exit -; the idle timer - case 2: marked, taken off the hub, told to exit -/
def Ctx.hubUnregOne (c : Ctx) (yieldPub : Bool) (r : HeldReq) : Ctx :=
  match c.w.live? r.tn with
  | none => if r.kind = "deltopic" then c.opDelTopic r.a r.tn r.hard else c
  | some t =>
    if r.kind = "unload" then
      { c with w := { c.w.delLive t.name with exiting := c.w.exiting ++ [{ t with deleted := true, exitDeleted := false }] } }
    else if r.a.uid ≠ "" ∧ t.owner = r.a.uid then
      -- the topic is paused first (markPaused): while the hub waits for the database the topic's own goroutine may take what is
      -- queued for it (`hubstep yield`: the publishes) - it finds itself inactive and refuses
      let pubs := t.q.filter (·.kind = "pub")
      let (c, t) := if yieldPub then
          let t' := { t with q := t.q.filter (·.kind ≠ "pub") }
          ({ (pubs.foldl (fun c p => c.emit p.a.sid (ctrl 503 p.tn)) c) with w := c.w.setLive t' }, t')
        else (c, t)
      let (c, ok) := c.call "TopicDelete" (fun w =>
        if r.hard then w.delRow r.tn
        else match w.row? r.tn with
          | some row => w.setRow { row with state := 20, subs := row.subs.map (fun s => { s with deleted := true }) }
          | none => w)
      if !ok then c.emit r.a.sid (ctrl 500 r.tn) else
      let c := c.emit r.a.sid (ctrl 200 r.tn)
      { c with w := { c.w.delLive t.name with exiting := c.w.exiting ++ [{ t with paused := true, deleted := true, exitDeleted := true }] } }
    else c

def Ctx.hubStep (c : Ctx) (yieldPub : Bool := false) : Ctx :=
  let joins := c.w.hubJoin
  let c := { c with w := { c.w with hubJoin := [] } }
  let c := joins.foldl Ctx.hubJoinOne c
  let unregs := c.w.hubUnreg
  let c := { c with w := { c.w with hubUnreg := [] } }
  -- (only the first deletion of the step is interleaved: the harness yields once)
  (unregs.foldl (fun (cy : Ctx × Bool) r => (cy.1.hubUnregOne (cy.2 && r.kind = "deltopic") r, cy.2 && r.kind ≠ "deltopic")) (c, yieldPub)).1

/-! ### a topic takes one message -/

/-- the handler of one queued message. On a topic which is shutting down every handler finds the topic inactive: the request is
refused (503) - the session's slot is released by `registerSession` / `unregisterSession` in either case -/
def Ctx.handleHeld (c : Ctx) (r : HeldReq) (exiting : Bool) : Ctx :=
  match r.kind with
  | "sub" =>
    let c := if exiting then c.emit r.a.sid (ctrl 503 r.tn) else c.regTopicPart r
    { c with w := c.w.setInflight r.a.sid false }
  | "leave" =>
    let c := if exiting then (if r.a.uid ≠ "" then c.emit r.a.sid (ctrl 503 r.tn) else c) else c.leaveTopicPart r.a r.tn r.unsub
    { c with w := c.w.setInflight r.a.sid false }
  | "pub" => if exiting then c.emit r.a.sid (ctrl 503 r.tn) else c.pubTopicPart r.a r.tn r.content r.head r.noEcho
  | _ => c

/-- the queue of a topic a step names: `reg` holds the {sub}s, `unreg` the {leave}s, `pub` the {pub}s -/
def queueKind (q : String) : String := if q = "reg" then "sub" else if q = "unreg" then "leave" else q

/-- the first message of that queue is taken out -/
def takeFirst (kind : String) : List HeldReq → Option (HeldReq × List HeldReq)
  | [] => none
  | r :: rest => if r.kind = kind then some (r, rest) else (takeFirst kind rest).map (fun (x, l) => (x, r :: l))

/-- handleTopicTermination (topic.go:505-539) of a topic the hub has shut down: the subscribers of a deleted group are told on `me`,
every attached session drops the topic, and - drainQueues, fix of the lost requests - what is still queued is answered -/
def Ctx.exitPart (c : Ctx) (t : Topic) : Ctx :=
  let c := if t.exitDeleted && t.isGrpCat then c.presSubsOffline t "gone" "" "" "" 0 0 { what := "gone" } "" false else c
  let c := t.sessions.foldl (fun c (sid, _) => { c with w := c.w.detach sid t.name }) c
  let c := { c with w := { c.w with exiting := c.w.exiting.filter (·.name ≠ t.name) } }
  let order := (t.q.filter (·.kind = "sub")) ++ (t.q.filter (·.kind = "leave")) ++ (t.q.filter (·.kind = "pub"))
  order.foldl (fun c r => c.handleHeld r true) c

/-- `tstep T q`; the second component is the plain answer when nothing was done -/
def Ctx.topicStep (c : Ctx) (tn : TName) (q : String) : Ctx × String :=
  match c.w.anyTopic? tn with
  | none => (c, "notloaded")
  | some (t, exiting) =>
    if q = "exit" then (if exiting then (c.exitPart t, "") else (c, "empty")) else
    match takeFirst (queueKind q) t.q with
    | none => (c, "empty")
    | some (r, rest) =>
      let t' := { t with q := rest }
      let c := { c with w := if exiting then c.w.setExiting t' else c.w.setLive t' }
      (c.handleHeld r exiting, "")

/-! ### everything settles -/

/-- the queue of one loaded topic is emptied: {sub}s first, then {leave}s, then {pub}s (the order of the harness's pump) -/
def Ctx.drainTopic (c : Ctx) (tn : TName) : Ctx :=
  match c.w.live? tn with
  | none => c
  | some t =>
    let order := (t.q.filter (·.kind = "sub")) ++ (t.q.filter (·.kind = "leave")) ++ (t.q.filter (·.kind = "pub"))
    let c := { c with w := c.w.setLive { t with q := [] } }
    order.foldl (fun c r => c.handleHeld r false) c

/-- the hub, then the loaded topics in the order of their names, then the topics which are shutting down in the order they were
shut down -/
def Ctx.settle (c : Ctx) : Ctx :=
  let c := c.hubStep
  let names := (c.w.live.map (·.name)).mergeSort (· ≤ ·)
  let c := names.foldl Ctx.drainTopic c
  c.w.exiting.foldl (fun c t => match c.w.exiting.find? (·.name = t.name) with | some t' => c.exitPart t' | none => c) c

end Tinode.World
