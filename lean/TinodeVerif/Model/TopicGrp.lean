import TinodeVerif.Model.World
/-
Group-topic handlers of the world model. Each function transcribes the Go handler named in its comment, branch by
branch and in the same order of adapter calls; replies are rendered exactly as the Go harness renders the real frames.
Presence addressed to users' `me` topics (routed through the hub to topics that are not loaded) is not part of this
stream; presence delivered to sessions attached to the topic is.
-/
namespace Tinode.World
open Tinode.Acs Tinode.Ranges

/-! ### rendering (must match harness/overlay/main/verif_world_test.go) -/

def acsStr (want given : Mode) : String := s!"{showMode want}/{showMode given}/{showMode (want &&& given)}"

def ctrl (code : Nat) (topic : String) (params : String := "") : String := s!"ctrl {code} {topic}{params}"

def showHead (h : List (String × String)) : String :=
  if h.isEmpty then "-" else ";".intercalate (h.map fun (k, v) => s!"{k}={v}")

def dataFrame (topic from_ : String) (seq : Int) (head : List (String × String)) (content : Tok) : String :=
  s!"data {topic} from={if from_.isEmpty then "-" else from_} seq={seq} head={showHead head} content={showTok content}"

def showRanges (rs : List Range) : String :=
  if rs.isEmpty then "-" else ",".intercalate (rs.map fun r => s!"{r.low}:{r.hi}")

/-! ### modes of the server's constants -/
def modeCSharer : Mode := 0xB0
def modeCAdmin : Mode := 0x90

def parseMode (s : String) : Except Err Mode := parseAcs s.toList
/-- `m.UnmarshalText(s)`: new value, or the old one on error -/
def unmarshalKeep (m : Mode) (s : String) : Mode × Bool :=
  match unmarshal m s.toList with
  | .ok v => (v, true)
  | .error _ => (m, false)

def levelMode (lvl : Level) (anon auth root : Mode) : Mode :=
  match lvl with | .anon => anon | .auth => auth | .root => root

/-- Topic.accessFor (topic.go:3649-3651) for a group topic -/
def Topic.accessFor (t : Topic) (lvl : Level) : Mode := levelMode lvl t.anon t.auth modeCPublic

/-! ### fan-out -/

def Topic.userIsReader (t : Topic) (u : Uid) : Bool := isReader (eff (t.pud u))

/-- passesPresenceFilters (topic.go:230-235) -/
def passesPres (t : Topic) (what : String) (filterIn filterOut : Mode) (u : Uid) : Bool :=
  let m := eff (t.pud u)
  (isPresencer m || what = "gone" || what = "acs") &&
  (filterIn = 0 || (m &&& filterIn) ≠ 0) && (filterOut = 0 || (m &&& filterOut) = 0)

def presFrame (topic : String) (p : PresMsg) : String :=
  s!"pres {topic} src={if p.src.isEmpty then "-" else p.src} what={p.what}{p.extra}"

/-- presSubsOnline (pres.go:302-330): the message goes to hub.routeSrv and reaches the topic after the current handler
has returned -/
def Ctx.presOnline (c : Ctx) (t : Topic) (p : PresMsg) : Ctx := { c with routed := c.routed ++ [(t.name, p)] }

/-- hub.routeSrv → Topic.handleServerMsg → handlePresence → broadcastToSessions (pres branch, topic.go:1264-1283),
evaluated against the topic as it is when the message arrives. For a group topic `procPresReq` passes `what` through
unchanged; an inactive topic ignores the message. -/
def Ctx.deliverRouted (c : Ctx) : Ctx :=
  let msgs := c.routed
  let c := { c with routed := [] }
  msgs.foldl (fun c (tn, p) =>
    match c.w.live? tn with
    | none => c
    | some t =>
      if t.inactive then c else
      t.sessions.foldl (fun c (sid, uid) =>
        if sid = p.skipSid then c
        else if p.singleUser ≠ "" ∧ uid ≠ p.singleUser then c
        else if p.excludeUser ≠ "" ∧ uid = p.excludeUser then c
        else if !passesPres t p.what p.filterIn p.filterOut uid then c
        else c.emit sid (presFrame t.name p)) c) c

/-- a subscriber hears of the topic's presence with P unless banned from it (no J) -/
def hearsPres (m : Mode) : Bool := isPresencer m && isJoiner m

/-- presOfflineFilter (pres.go:705-719) with a nil or given filter -/
def presOfflineFilter (mode : Mode) (what : String) (filterIn filterOut : Mode) : Bool :=
  if what = "acs" ∨ what = "gone" then true
  else if what = "upd" ∧ isJoiner mode then true
  else isJoiner mode && isPresencer mode && (filterIn = 0 || (mode &&& filterIn) ≠ 0) && (filterOut = 0 || (mode &&& filterOut) = 0)

/-! ### notifications for users on their `me` topics (pres.go: presSubsOffline, presSingleUserOffline, presSingleUserOfflineOffline,
infoSubsOffline). Each is a message to `hub.routeSrv` addressed to a user; `Model/TopicMe.lean` delivers them. -/

/-- Topic.original (topic.go:3661-3676): the name the user knows the topic by -/
def Topic.origFor (t : Topic) (u : Uid) : String :=
  match t.name.splitOn ":" with
  | ["P", a, b] => if u = a then b else a
  | _ => if t.isFnd then "fnd" else if (t.pud u).isChan then "chn:" ++ t.name else t.name

/-- the rendered parameters; actor and target are blanked when they are the recipient -/
def presExtra (base : String) (actor target user : Uid) : String :=
  base ++ (if target ≠ "" ∧ target ≠ user then s!" tgt={target}" else "") ++ (if actor ≠ "" ∧ actor ≠ user then s!" act={actor}" else "")

/-- presSubsOffline (pres.go:432-475); `tgt` carries the target filters: the messages, in the order of the subscribers -/
def presSubsOfflineMsgs (t : Topic) (what base : String) (actor target : Uid) (srcIn srcOut : Mode)
    (tgt : PresMsg) (skipSid : Sid) (offlineOnly : Bool) (cmd : String := "") : List (TName × PresMsg) :=
  t.perUser.filterMap (fun (uid, pud) =>
    if pud.deleted || !presOfflineFilter (eff pud) what srcIn srcOut then none
    else some (uid, { tgt with what := what, cmd := cmd, src := t.origFor uid, extra := presExtra base actor target uid, skipSid := skipSid,
                               skipTopic := if offlineOnly then t.name else "" }))

def Ctx.presSubsOffline (c : Ctx) (t : Topic) (what base : String) (actor target : Uid) (srcIn srcOut : Mode)
    (tgt : PresMsg) (skipSid : Sid) (offlineOnly : Bool) (cmd : String := "") : Ctx :=
  { c with off := c.off ++ presSubsOfflineMsgs t what base actor target srcIn srcOut tgt skipSid offlineOnly cmd }

/-- presSingleUserOffline (pres.go:587-628) -/
def presSingleOfflineMsgs (t : Topic) (uid : Uid) (mode : Mode) (what base : String) (actor target : Uid)
    (skipSid : Sid) (offlineOnly : Bool) (cmd : String := "") : List (TName × PresMsg) :=
  if mode ≠ modeInvalid ∧ presOfflineFilter mode what 0 0 then
    [(uid, { what := what, cmd := cmd, src := t.origFor uid, extra := presExtra base actor target uid, wantReply := what = "?unkn",
             skipSid := skipSid, skipTopic := if offlineOnly then t.name else "" })]
  else []

def Ctx.presSingleOffline (c : Ctx) (t : Topic) (uid : Uid) (mode : Mode) (what base : String) (actor target : Uid)
    (skipSid : Sid) (offlineOnly : Bool) (cmd : String := "") : Ctx :=
  { c with off := c.off ++ presSingleOfflineMsgs t uid mode what base actor target skipSid offlineOnly cmd }

/-- presSingleUserOfflineOffline (pres.go:632-657) -/
def Ctx.presSingleOfflineOffline (c : Ctx) (uid : Uid) (orig what base : String) (actor target : Uid) (skipSid : Sid)
    (cmd : String := "") : Ctx :=
  { c with off := c.off ++ [(uid, { what := what, cmd := cmd, src := orig, extra := presExtra base actor target uid, skipSid := skipSid })] }

/-- infoSubsOffline (pres.go:479-501) -/
def infoSubsOfflineMsgs (t : Topic) (from_ : Uid) (what : String) (seq : Int) (skipSid : Sid) : List (TName × PresMsg) :=
  t.perUser.filterMap (fun (uid, pud) =>
    if pud.deleted || !isPresencer (eff pud) || !isReader (eff pud) then none
    else some (uid, { what := what, src := t.origFor uid, isInfo := true, infoFrom := from_, extra := s!" seq={seq}",
                      skipTopic := t.name, skipSid := skipSid }))

def Ctx.infoSubsOffline (c : Ctx) (t : Topic) (from_ : Uid) (what : String) (seq : Int) (skipSid : Sid) : Ctx :=
  { c with off := c.off ++ infoSubsOfflineMsgs t from_ what seq skipSid }

/-- presSubsOnlineDirect (pres.go:345-386): straight to the attached sessions -/
def Ctx.presDirect (c : Ctx) (t : Topic) (p : PresMsg) : Ctx :=
  t.sessions.foldl (fun c (sid, uid) =>
    if sid = p.skipSid then c
    else
      let pud := t.pud uid
      if pud.deleted || !presOfflineFilter (eff pud) p.what p.filterIn p.filterOut then c
      else if p.singleUser ≠ "" ∧ p.singleUser ≠ uid then c
      else if p.excludeUser ≠ "" ∧ p.excludeUser = uid then c
      else c.emit sid (presFrame t.name p)) c

/-- broadcastToSessions, {data} branch (topic.go:1257-1330) -/
def Ctx.fanoutData (c : Ctx) (t : Topic) (skipSid : Sid) (frame : String) : Ctx :=
  t.sessions.foldl (fun c (sid, uid) =>
    if sid = skipSid then c
    else if !t.userIsReader uid then c
    else c.emit sid frame) c

/-- broadcastToSessions, {info} branch -/
def Ctx.fanoutInfo (c : Ctx) (t : Topic) (skipSid : Sid) (sender : Uid) (what : String) (frame : String) : Ctx :=
  t.sessions.foldl (fun c (sid, uid) =>
    if sid = skipSid then c
    else if !t.userIsReader uid then c
    else if what = "kp" ∧ sender = uid then c
    else c.emit sid frame) c

/-! ### store access (each function = one mapper call of store.go; adapter calls in the same order) -/

def newSubRow (u : Uid) (want given : Mode) (priv : Tok) : SubRow := { user := u, want := want, given := given, priv := priv }

/-- createSubscription(undelete = true) as called by TopicShare (mysql/adapter.go:1492-1519): insert, or — when a row
for (topic, user) exists, deleted or not — overwrite the modes, reset the marks, clear `deletedat`, keep `private`;
an effective owner becomes the topic row's owner. -/
def TopicRow.createSub (r : TopicRow) (s : SubRow) : TopicRow :=
  let r := match r.sub? s.user with
    | some old => r.setSub { old with want := s.want, given := s.given, readId := 0, recvId := 0, delId := 0, deleted := false }
    | none => r.setSub s
  if isOwner (s.want &&& s.given) then { r with owner := s.user } else r

/-- store.Subs.Create → adp.TopicShare -/
def Ctx.subsCreate (c : Ctx) (tn : TName) (s : SubRow) : Ctx × Bool :=
  c.callFK "TopicShare" s.user (fun w => match w.row? tn with
    | some r => w.setRow (r.createSub s)
    | none => w)

/-- store.Subs.Update → adp.SubsUpdate (user "" = ALL subscriptions of the topic, mysql/adapter.go:2253-2259; soft-deleted
rows are updated too: the statement has no `deletedat` filter) -/
def Ctx.subsUpdate (c : Ctx) (tn : TName) (u : Uid) (f : SubRow → SubRow) : Ctx × Bool :=
  c.call "SubsUpdate" (fun w => match w.row? tn with
    | some r => w.setRow { r with subs := r.subs.map (fun s => if u = "" ∨ s.user = u then f s else s) }
    | none => w)

/-- store.Subs.Get → adp.SubscriptionGet -/
def Ctx.subsGet (c : Ctx) (tn : TName) (u : Uid) (keepDeleted : Bool) : Ctx × Option (Option SubRow) :=
  let (c, ok) := c.call "SubscriptionGet"
  if !ok then (c, none) else
  let s := (c.w.row? tn).bind (·.sub? u)
  (c, some (match s with
    | some r => if r.deleted ∧ !keepDeleted then none else some r
    | none => none))

/-- store.Subs.Delete → adp.SubsDelete: soft delete; `some false` = ErrNotFound -/
def Ctx.subsDelete (c : Ctx) (tn : TName) (u : Uid) : Ctx × Option Bool :=
  let found := match (c.w.row? tn).bind (·.sub? u) with
    | some s => !s.deleted
    | none => false
  let (c, ok) := c.call "SubsDelete" (fun w => match w.row? tn with
    | some r =>
      if found then
        w.setRow { r with subs := r.subs.map (fun s => if s.user = u then { s with deleted := true } else s),
                          dellog := r.dellog.filter (·.forUser ≠ u) }
      else w
    | none => w)
  if !ok then (c, none) else (c, some found)

/-! ### loading (init_topic.go) -/

/-- loadSubscribers + initTopicGrp: the cache rebuilt from the rows -/
def loadTopic (r : TopicRow) : Topic :=
  let live := r.subs.filter (!·.deleted)
  let mk (s : SubRow) : PUD := { readId := s.readId, recvId := s.recvId, delId := s.delId, priv := s.priv, want := s.want, given := s.given }
  let perUser := live.map (fun s => (s.user, mk s))
  -- the owner is the last subscriber (in load order) whose effective mode has O
  let owner := live.foldl (fun o s => if isOwner (s.want &&& s.given) then s.user else o) ""
  { name := r.name, lastId := r.seq, delId := r.del, owner := owner, auth := r.auth, anon := r.anon, pub := r.pub, tr := r.tr,
    tags := r.tags, perUser := perUser, hasSupd := true, isChan := r.chan,
    readOnly := r.state = 10 }      -- the topic of a suspended owner is read-only, in memory as in the store

end Tinode.World
