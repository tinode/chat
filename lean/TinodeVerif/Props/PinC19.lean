import TinodeVerif.Gen.AdapterPin
import TinodeVerif.Props.Pin
/-! C19: the adapter functions its store behaviour rests on are the ones which were transcribed and reviewed (see Props/Pin.lean). -/
namespace Tinode.Props.Pin
open Tinode.AdapterPin

theorem C19_store_functions_as_reviewed : pinsFor Tinode.Gen.AdapterPin.pins "C19" = pinsFor expected "C19" := by rfl

end Tinode.Props.Pin
