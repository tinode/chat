import TinodeVerif.Model.TopicUser
import TinodeVerif.Props.C14
/-!
C14 / C11 / C08, the deletion of an account ({del what=user}: `replyDelUser`, `SessionStore.EvictUser`, the hub's
`stopTopicsForUser`, the adapters' `UserDelete`), as transcribed in Model/TopicUser.lean and tied to the code by the world stream.

* who may delete whom (`delUserTarget`): an account is deleted by its own session or by a root session, by nobody else;
* what the store holds afterwards: after `userDeleteHard` no subscription of the account and none of its topics, after `userDeleteSoft` both
  marked deleted;
* what the hub stops (`stopsFor`), and that a stopped topic is no longer loaded (nothing is proved here about the sessions' own
  tables: that no session of the account stays attached is what the C14 monitor checks);
* which news of a deleted account a group topic acts upon (`goneMember`), and that the eviction with `unsub` by which it then forgets
  the subscriber (`evictUser` / `evictUserC`, called by `evictGone`: fix 98bce9d) leaves no entry for the user in the topic's cache;
* once the deletion is acknowledged every session of the account is logged out (`delUserDone`); what such a session sends afterwards is answered by
  `Ctx.loggedOut` (C11w's `logged_out_refused`) - that the driver routes it there is not a theorem.
-/
namespace Tinode.Props.C14
open Tinode.World

theorem only_root_deletes_others (c : Ctx) (s : Sess) (target : String) (hard : Bool)
    (hl : s.lvl ≠ .root) (ht : target ≠ "") (hne : target ≠ s.uid) :
    c.opDelUser s target hard = c.emit s.sid (ctrl 403 "-") := by
  unfold Ctx.opDelUser delUserTarget
  simp [ht, hne, hl]

theorem refused_deletion_no_effect (c : Ctx) (s : Sess) (target : String) (hard : Bool)
    (hl : s.lvl ≠ .root) (ht : target ≠ "") (hne : target ≠ s.uid) :
    (c.opDelUser s target hard).w = c.w ∧ (c.opDelUser s target hard).calls = c.calls ∧
    (c.opDelUser s target hard).off = c.off ∧ (c.opDelUser s target hard).pushes = c.pushes := by
  rw [only_root_deletes_others c s target hard hl ht hne]
  exact ⟨rfl, rfl, rfl, rfl⟩

theorem deletes_self (s : Sess) : delUserTarget s "" = .ok s.uid ∧ delUserTarget s s.uid = .ok s.uid := by
  unfold delUserTarget; simp

theorem root_deletes_named (s : Sess) (u : String) (hl : s.lvl = .root) (hu : u.startsWith "U" = true) (hne : u ≠ "") :
    delUserTarget s u = .ok u := by
  unfold delUserTarget
  by_cases h : u = s.uid
  · simp [h]
  · simp [hne, h, hl, hu]

/-- hard: no topic owned by the account is left, no subscription of the account (of either kind), no record of messages deleted
for it; the account has no row any more and is listed as gone -/
theorem hard_delete_leaves_nothing (w : World) (u : Uid) (hu : u ≠ "") :
    (∀ r ∈ (w.userDeleteHard u).store, r.owner ≠ u ∧ (∀ s ∈ r.subs, s.user ≠ u) ∧ (∀ s ∈ r.csubs, s.user ≠ u) ∧
        (∀ d ∈ r.dellog, d.forUser ≠ u)) ∧
    (w.userDeleteHard u).user? u = none ∧ (w.userDeleteHard u).hasRecord u = false ∧ u ∈ (w.userDeleteHard u).gone ∧
    (∀ s ∈ (w.userDeleteHard u).meSubs, s.user ≠ u) ∧ (∀ s ∈ (w.userDeleteHard u).fndSubs, s.user ≠ u) := by
  -- every table is filtered by its column for the user
  have ne {α} (f : α → Uid) (l : List α) : ∀ s ∈ l.filter (f · ≠ u), f s ≠ u :=
    fun s hs => of_decide_eq_true (List.mem_filter.mp hs).2
  unfold World.userDeleteHard World.user? World.hasRecord
  refine ⟨fun r hr => ?_, ?_, ?_, mem_insertIfAbsent .., ne SubRow.user _, ne SubRow.user _⟩
  · obtain ⟨r0, hr0, rfl⟩ := List.mem_map.mp hr
    refine ⟨fun h => ?_, ne SubRow.user _, ne SubRow.user _, ne DelRow.forUser _⟩
    simpa [hu, show r0.owner = u from h] using (List.mem_filter.mp hr0).2
  · rw [List.find?_eq_none]
    intro x hx
    simp [ne User.uid _ x hx]
  · rw [List.any_eq_false]
    intro x hx
    simpa using ne User.uid _ x hx

/-- soft: every subscription of the account is marked deleted, every topic it owns is marked deleted with all its
subscriptions (`subs`; the rows of channel readers, `csubs`, are not marked); nothing reads the account as an account any more, but its row stays (foreign keys still find it) -/
theorem soft_delete_marks_everything (w : World) (u : Uid) :
    (∀ r ∈ (w.userDeleteSoft u).store,
        (∀ s ∈ r.subs, s.user = u → s.deleted = true) ∧ (∀ s ∈ r.csubs, s.user = u → s.deleted = true) ∧
        (u ≠ "" → r.owner = u → r.state = 20 ∧ ∀ s ∈ r.subs, s.deleted = true)) ∧
    (w.userDeleteSoft u).user? u = none ∧ (w.userDeleteSoft u).hasRecord u = w.hasRecord u ∧ u ∈ (w.userDeleteSoft u).gone := by
  unfold World.userDeleteSoft World.user? World.hasRecord
  refine ⟨fun r hr => ?_, ?_, ?_, mem_insertIfAbsent ..⟩
  · obtain ⟨r0, -, rfl⟩ := List.mem_map.mp hr
    -- `r1`: the row with the user's subscriptions marked; then the whole topic is marked, or `r1` it is
    extract_lets mine r1
    have marked {l : List SubRow} : ∀ s ∈ l.map (fun s => if s.user = u then { s with deleted := true } else s),
        s.user = u → s.deleted = true :=
      fun s hs => of_mem_map_ite (q := (·.deleted = true)) (fun _ _ => rfl) hs
    have all : ∀ s ∈ r1.subs.map (fun s => { s with deleted := true }), s.deleted = true := by
      intro _ hs
      obtain ⟨s, -, rfl⟩ := List.mem_map.mp hs
      rfl
    by_cases h1 : u ≠ "" ∧ r1.owner = u
    · rw [if_pos h1]
      exact ⟨fun s hs _ => all s hs, marked, fun _ _ => ⟨rfl, all⟩⟩
    rw [if_neg h1]
    by_cases h2 : r1.owner = "" ∧ mine = true
    · rw [if_pos h2]
      exact ⟨fun s hs _ => all s hs, marked, fun _ _ => ⟨rfl, all⟩⟩
    · rw [if_neg h2]
      exact ⟨marked, marked, fun hne ho => absurd ⟨hne, ho⟩ h1⟩
  · rw [List.find?_eq_none]
    intro x hx
    simpa using of_mem_map_ite (q := (·.deleted = true)) (fun _ _ => rfl) hx
  · rw [List.any_map]
    congr 1
    funext x
    dsimp only [Function.comp]
    split <;> rfl

/-- stopTopicsForUser: the account's own `me` and `fnd`, every p2p topic it takes part in, the system topic if it is subscribed to
it, every topic it owns -/
theorem stops_own_and_personal (u : Uid) (t : Topic) :
    stopsFor u t = true ↔
      ((t.isMe ∨ t.isFnd ∨ isP2PKey t.name = true ∨ t.name = "sys") ∧ (t.pud? u).isSome) ∨ (u ≠ "" ∧ t.owner = u) := by
  simp [stopsFor, Topic.isGrpCat, or_assoc]

/-- a group topic in which the account is a mere subscriber is not stopped: it is told that the subscriber is gone instead -/
theorem member_topic_not_stopped (u : Uid) (t : Topic) (hg : t.isGrpCat = true) (ho : t.owner ≠ u) : stopsFor u t = false := by
  unfold stopsFor
  simp [hg, ho]

theorem stopped_topic_lets_go (c : Ctx) (hard : Bool) (t : Topic) :
    (c.exitOne hard t).w.live? t.name = none :=
  terminate_unloads _ t

/-- the news is acted upon by a loaded group topic exactly when it is about a subscriber other than the owner -/
theorem gone_member_iff (t : Topic) (src : Uid) :
    goneMember t { what := "gone", src := src } = true ↔
      t.isGrpCat = true ∧ src ≠ "" ∧ src ≠ t.owner ∧ (t.pud? src).isSome = true := by
  simp [goneMember, and_assoc]

/-- after `evictUser` with `unsub` - the eviction `evictGone` performs on a plain group topic - the topic's cache has no entry for the
user. (The step from here to the topic `evictGone` leaves loaded is not stated.) -/
theorem forgotten_by_group (c : Ctx) (t : Topic) (u : Uid) :
    ((c.evictUser t u true "").2.pud? u) = none := by
  -- with `unsub` the topic returned is `t.delPud u` with the user's sessions taken out, which `pud?` does not read
  show ({ t.delPud u with sessions := _ } : Topic).pud? u = none
  exact pud?_delPud t u

theorem forgotten_by_channel (c : Ctx) (t : Topic) (u : Uid) :
    ((c.evictUserC t u true "").2.pud? u) = none := by
  show ({ t.delPud u with sessions := _, chanSess := _ } : Topic).pud? u = none
  exact pud?_delPud t u

theorem deleted_account_logged_out (c : Ctx) (s : Sess) (u : Uid) :
    ∀ x ∈ (c.delUserDone s u).w.sess, x.uid = u → x.out = true :=
  fun _ hx => of_mem_map_ite (q := (·.out = true)) (fun _ _ => rfl) hx

/-- `stopsFor`, `goneMember` and `delUserTarget` on small worlds -/
example : stopsFor "U1" { name := "U1", isMe := true, perUser := [("U1", {})] } = true ∧
          stopsFor "U1" { name := "T1", owner := "U2", perUser := [("U1", {}), ("U2", {})] } = false ∧
          stopsFor "U1" { name := "P:U1:U2", perUser := [("U1", {}), ("U2", {})] } = true := by decide +kernel
example : goneMember { name := "T1", owner := "U2", perUser := [("U1", {}), ("U2", {})] } { what := "gone", src := "U1" } = true := by
  decide +kernel

end Tinode.Props.C14
