import TinodeVerif.Gen.AdapterPin
import TinodeVerif.Props.Pin
/-! C18: the adapter functions its store behaviour rests on are the ones which were transcribed and reviewed (see Props/Pin.lean). -/
namespace Tinode.Props.Pin
open Tinode.AdapterPin

theorem C18_store_functions_as_reviewed : pinsFor Tinode.Gen.AdapterPin.pins "C18" = pinsFor expected "C18" := by rfl

end Tinode.Props.Pin
