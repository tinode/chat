import TinodeVerif.Gen.AdapterPin
import TinodeVerif.Props.Pin
/-! C06: the adapter functions its store behaviour rests on are the ones which were transcribed and reviewed (see Props/Pin.lean). -/
namespace Tinode.Props.Pin
open Tinode.AdapterPin

theorem C06_store_functions_as_reviewed : pinsFor Tinode.Gen.AdapterPin.pins "C06" = pinsFor expected "C06" := by rfl

end Tinode.Props.Pin
