import TinodeVerif.Model.TopicFnd
import TinodeVerif.Proofs.World
/-!
C19, the search itself (`fnd` topics): what `{get sub}` on a user's `fnd` topic shows.

`World.findSubs` (Model/TopicFnd.lean) transcribes store.Users.FindSubs over the matching rule of the adapters; `Ctx.opGetFndSub` the
TopicCatFnd branch of replyGetSub: the session's query (or the stored one), `parseSearchQuery` (the parser of Model/Search.lean, whose
reading of a query string is proved against the documented grammar in Props/C19.lean), the check for tags of masked namespaces, the
two store calls, the rendering.
-/
namespace Tinode.Props.C19
open Tinode.World Tinode.Acs

/-- what a match means: the matched tags are exactly the item's tags named by the query, there is at least one, and every non-empty AND-group
of the query is represented among them -/
theorem matchTags_iff (tags : List String) (req : List (List String)) (opt : List String) (found : List String) :
    matchTags tags req opt = some found ↔
      found = tags.filter (fun t => (req.flatten ++ opt).contains t) ∧ found ≠ [] ∧
      ∀ g ∈ req, g ≠ [] → ∃ t ∈ g, t ∈ found := by
  simp only [matchTags]
  generalize tags.filter _ = F
  have hall : (req.all fun g => g.isEmpty || g.any fun t => F.contains t) = true ↔
      ∀ g ∈ req, g ≠ [] → ∃ t ∈ g, t ∈ F := by
    simp [Decidable.or_iff_not_imp_left]
  constructor
  · intro h
    split at h
    · cases h
    next hF =>
      split at h
      next ha => cases h; exact ⟨rfl, by simpa using hF, hall.mp ha⟩
      · cases h
  · rintro ⟨rfl, hne, ha⟩
    rw [if_neg (by simpa using hne), if_pos (hall.mpr ha)]

theorem matched_are_shared (tags : List String) (req : List (List String)) (opt : List String) (found : List String)
    (h : matchTags tags req opt = some found) (t : String) (ht : t ∈ found) : t ∈ tags ∧ (t ∈ req.flatten ∨ t ∈ opt) := by
  have := (matchTags_iff tags req opt found).mp h
  rw [this.1] at ht
  simp only [List.mem_filter, List.contains_eq_mem, List.mem_append, decide_eq_true_eq] at ht
  exact ht

/-- the equations are oriented as `found_iff` states them of the entry `g` the search builds and the entry `f` asked about -/
theorem found_ext_iff (g f : Found) : g = f ↔ g.tags = f.tags ∧ f.name = g.name ∧ f.mode = g.mode := by
  cases g; cases f; simp only [Found.mk.injEq]
  constructor <;> rintro ⟨rfl, rfl, rfl⟩ <;> exact ⟨rfl, rfl, rfl⟩

/-- **Soundness and completeness of the search.** An entry is among the results iff it is an account other than the searcher's, or a
topic, whose tags match the query - shown with exactly the matched tags - and which is in the normal state unless a root session
asks (a suspended or deleted account, a deleted topic is never shown to an ordinary user). -/
theorem found_iff (w : World) (caller : Uid) (lvl : Level) (req : List (List String)) (opt : List String) (f : Found) :
    f ∈ w.findSubs caller lvl req opt ↔
      (∃ u ∈ w.users, u.uid ≠ caller ∧ (lvl ≠ .root → u.suspended = false ∧ u.deleted = false) ∧ matchTags u.tags req opt = some f.tags ∧
          f.name = u.uid ∧ f.mode = (match lvl with | .anon => u.anon | _ => u.auth)) ∨
      (∃ r ∈ w.store, (lvl ≠ .root → r.state = 0) ∧ matchTags r.tags req opt = some f.tags ∧
          f.name = (if r.chan then "chn:" ++ r.name else r.name) ∧
          f.mode = (if r.chan then modeCChnReader else (match lvl with | .anon => r.anon | _ => r.auth))) := by
  -- `findSubs` is two `filterMap`s, so membership is "some account, or some topic, yields `f`"; the statement is what an account
  -- and a topic yield, read off the `if`s and the `match` of the model: the two sides are compared entry by entry
  simp only [World.findSubs, List.mem_append, List.mem_filterMap]
  refine or_congr (exists_congr fun u => and_congr_right fun _ => ?_) (exists_congr fun r => and_congr_right fun _ => ?_)
  all_goals
    cases matchTags _ req opt with
    | none => simp
    | some t =>
      -- past the guards `some { name := …, mode := …, tags := t } = some f`, which `found_ext_iff` splits into the statement's equations
      simp [found_ext_iff]
      -- left is `f.mode = match lvl with …` on both sides: the `match` of the statement and that of the model are two auxiliary
      -- definitions with the same unfolding
      intros; rfl

theorem never_the_searcher (w : World) (caller : Uid) (lvl : Level) (req : List (List String)) (opt : List String) (f : Found)
    (h : f ∈ w.findSubs caller lvl req opt) (hu : ∀ r ∈ w.store, (if r.chan then "chn:" ++ r.name else r.name) ≠ caller) :
    f.name ≠ caller := by
  rcases (found_iff w caller lvl req opt f).mp h with ⟨u, _, h1, _, _, hn, _⟩ | ⟨r, hr, _, _, hn, _⟩
  · rw [hn]; exact h1
  · rw [hn]; exact hu r hr

theorem hidden_from_ordinary_users (w : World) (caller : Uid) (lvl : Level) (hl : lvl ≠ .root) (req : List (List String))
    (opt : List String) (f : Found) (h : f ∈ w.findSubs caller lvl req opt) :
    (∃ u ∈ w.users, f.name = u.uid ∧ u.suspended = false ∧ u.deleted = false) ∨ (∃ r ∈ w.store, r.state = 0 ∧
      f.name = (if r.chan then "chn:" ++ r.name else r.name)) := by
  rcases (found_iff w caller lvl req opt f).mp h with ⟨u, hu, _, h2, _, hn, _⟩ | ⟨r, hr, h2, _, hn, _⟩
  · exact Or.inl ⟨u, hu, hn, h2 hl⟩
  · exact Or.inr ⟨r, hr, h2 hl, hn⟩

/-- a query which names a tag of a masked namespace is refused before the store is asked (a `fnd` topic carries no tags of its own) -/
theorem masked_tag_refused (c : Ctx) (a : Actor) (isL isN : Char → Bool) (masked : List (List Char)) (t : Topic) (q : String)
    (req : List (List (List Char))) (opt : List (List Char))
    (hatt : c.w.attached a.sid (fndName a.uid) = true) (hl : c.w.live? (fndName a.uid) = some t)
    (hq : (t.fndPub.find? (·.1 = a.sid)).map (·.2) = some q) (hne : q.isEmpty = false)
    (hp : Search.parseSearchQuery (rewriteQ isL isN) q.toList = .ok (req, opt)) (hreq : ¬(req.isEmpty ∧ opt.isEmpty))
    (hm : (Search.filterRestricted isL isN masked (req.flatten ++ opt)).isEmpty = false) :
    c.opGetFndSub a isL isN masked = c.emit a.sid (ctrl 403 (fndName a.uid)) := by
  unfold Ctx.opGetFndSub
  simp only [hatt, Bool.not_true, Bool.false_eq_true, if_false, hl, hq, hne, hp]
  simp only [hm, Bool.not_false, if_true]
  split
  · rename_i h; exact absurd h hreq
  · rfl

theorem account_tags_immutable_refused (c : Ctx) (a : Actor) (src : List String) (t : Topic) (tags : List String)
    (hatt : c.w.attached a.sid a.uid = true) (hl : c.w.live? a.uid = some t)
    (hn : normTags src = some tags) (hi : immutableSame t.tags tags = false) :
    c.opSetTagsMe a src = c.emit a.sid (ctrl 403 a.uid) := by
  unfold Ctx.opSetTagsMe
  simp [hatt, hl, hn, hi]

theorem account_tags_need_attachment (c : Ctx) (a : Actor) (src : List String) (hatt : c.w.attached a.sid a.uid = false) :
    c.opSetTagsMe a src = c.emit a.sid (ctrl 403 a.uid) := by
  unfold Ctx.opSetTagsMe
  simp [hatt]

theorem opSetTagsMe_users (c : Ctx) (a : Actor) (src : List String) (t : Topic) (tags : List String)
    (hatt : c.w.attached a.sid a.uid = true) (hl : c.w.live? a.uid = some t)
    (hn : normTags src = some tags) (hi : immutableSame t.tags tags = true)
    (hch : ¬((tags.filter (fun x => !t.tags.contains x)).length = 0 ∧ (t.tags.filter (fun x => !tags.contains x)).length = 0))
    (hok : (c.call "UserUpdate").2 = true) :
    (c.opSetTagsMe a src).w.users = c.w.users.map fun x => if x.uid = a.uid then { x with tags := tags } else x := by
  obtain ⟨c', hc', hw⟩ := call_of_ok c "UserUpdate" hok fun w =>
    { w with users := w.users.map fun (x : User) => if x.uid = a.uid then { x with tags := tags } else x }
  simp only [Ctx.opSetTagsMe, hatt, hl, hn, hi, hch, hc', Bool.not_true, Bool.false_eq_true, if_false]
  exact congrArg World.users hw

/-- an accepted change stores the normalised list - for the account which asked and for no other -, and that list is what the search
matches from then on (`found_iff` reads `User.tags`) -/
theorem account_tags_stored_normalised (c : Ctx) (a : Actor) (src : List String) (t : Topic) (tags : List String)
    (hatt : c.w.attached a.sid a.uid = true) (hl : c.w.live? a.uid = some t)
    (hn : normTags src = some tags) (hi : immutableSame t.tags tags = true)
    (hch : ¬((tags.filter (fun x => !t.tags.contains x)).length = 0 ∧ (t.tags.filter (fun x => !tags.contains x)).length = 0))
    (hok : (c.call "UserUpdate").2 = true) :
    ∀ x ∈ (c.opSetTagsMe a src).w.users, (x.uid = a.uid → x.tags = tags) ∧
      (x.uid ≠ a.uid → ∃ y ∈ c.w.users, y.uid = x.uid ∧ y.tags = x.tags) := by
  rw [opSetTagsMe_users c a src t tags hatt hl hn hi hch hok]
  simp only [List.mem_map]
  rintro x ⟨y, hy, rfl⟩
  by_cases hu : y.uid = a.uid
  · simp [hu]
  · rw [if_neg hu]
    exact ⟨fun h => absurd h hu, fun _ => ⟨y, hy, rfl, rfl⟩⟩

example : matchTags ["flowers", "music", "a1"] [["music"], ["travel"]] [] = none := by decide
example : matchTags ["music", "travel", "b2"] [["music"], ["travel"]] [] = some ["music", "travel"] := by decide
example : matchTags ["flowers", "music", "a1"] [["a1"]] ["b2", "music"] = some ["music", "a1"] := by decide

end Tinode.Props.C19
