import TinodeVerif.Proofs.Ring
import TinodeVerif.Proofs.Election
/-!
# C17 — cluster nodes agree on topic placement (ring) and on at most one leader per term (election)
Ring part. Model: `Model/Ring.lean`; the theorems hold for **any** hash function, any replica count and
any total order on node names.
-/
namespace Tinode.Props.C17
open Tinode.Ring

variable {kle : String → String → Bool}

/-- **Order independence.** The same set of node names, listed in any order, gives the same sorted
replica list — hence the same owner for every key and the same signature (a function of that list). -/
theorem ring_perm_invariant (h : TotalOrder kle) (hash : String → Nat) (n : Nat) (nodes nodes' : List String)
    (hp : nodes.Perm nodes') : ring kle hash n nodes = ring kle hash n nodes' :=
  eq_ring h ((ring_perm hash n nodes).trans (hp.flatMap_right _)) (ring_sorted h hash n nodes)

theorem get_perm_invariant (h : TotalOrder kle) (hash : String → Nat) (n : Nat) (nodes nodes' : List String)
    (hp : nodes.Perm nodes') (k : String) :
    get kle hash (ring kle hash n nodes) k = get kle hash (ring kle hash n nodes') k := by
  rw [ring_perm_invariant h hash n nodes nodes' hp]

/-- **Totality.** With at least one live node and at least one replica, every key is owned by exactly one
node and that node is a live node. -/
theorem ring_total (hash : String → Nat) (n : Nat) (nodes : List String) (hn : 0 < n) (hne : nodes ≠ []) (k : String) :
    get kle hash (ring kle hash n nodes) k ∈ nodes := by
  have hperm := ring_perm (kle := kle) hash n nodes
  rw [get_eq]
  cases ho : owner kle hash (ring kle hash n nodes) k with
  | some e => exact key_mem_of_mem_elemsOf (hperm.mem_iff.mp (owner_mem ho))
  | none =>
    rw [owner_eq_none ho] at hperm
    obtain ⟨a, l, rfl⟩ := List.exists_cons_of_ne_nil hne
    have := hperm.length_eq
    simp [elemsOf] at this
    omega

/-- **Removing a node moves only the keys it owned.** -/
theorem ring_remove_minimal (h : TotalOrder kle) (hash : String → Nat) (n : Nat) (nodes : List String) (x k : String)
    (hk : get kle hash (ring kle hash n nodes) k ≠ x) :
    get kle hash (ring kle hash n (nodes.filter (fun a => a != x))) k = get kle hash (ring kle hash n nodes) k :=
  ring_filter_minimal h n nodes (· != x) (bne_iff_ne.mpr hk)

/-- **Adding a node moves keys only to it.** -/
theorem ring_add_minimal (h : TotalOrder kle) (hash : String → Nat) (n : Nat) (nodes : List String) (x k : String)
    (hx : x ∉ nodes) :
    get kle hash (ring kle hash n (x :: nodes)) k = x ∨
    get kle hash (ring kle hash n (x :: nodes)) k = get kle hash (ring kle hash n nodes) k := by
  refine (Decidable.em _).imp_right fun hk => ?_
  have hf : (x :: nodes).filter (fun a => a != x) = nodes := by
    rw [List.filter_cons_of_neg (by simp), List.filter_eq_self]
    exact fun a ha => bne_iff_ne.mpr fun e => hx (e ▸ ha)
  rw [← ring_remove_minimal h hash n (x :: nodes) x k hk, hf]

/-! ## Election part. Model: `Model/Election.lean` over the guards regenerated in `Gen/Election.lean`. -/
section election
open Tinode.Election Tinode.Gen.Election

/-- The statement-level shape of the vote handler, the health handler, the ticker branch and `electLeader`
that `Model/Election.lean` was written against. A change to those regions of cluster_leader.go changes
`Gen.Election.shape` and breaks this theorem (the tie), whatever it does to the guards. -/
def expectedShape : List String := [
  "vote/if c.fo.term < vreq.req.Term",
  "vote/then/c.fo.term = vreq.req.Term",
  "vote/then/c.fo.leader = \"\"",
  "vote/then/vreq.resp <- ClusterVoteResponse{Result: true, Term: c.fo.term}",
  "vote/else",
  "vote/else/vreq.resp <- ClusterVoteResponse{Result: false, Term: c.fo.term}",
  "health/if health.Term < c.fo.term",
  "health/then/continue",
  "health/if health.Term > c.fo.term",
  "health/then/c.fo.term = health.Term",
  "health/then/c.fo.leader = health.Leader",
  "health/else",
  "health/else/if health.Leader != c.fo.leader",
  "health/else/then/if c.fo.leader != \"\"",
  "health/else/then/else",
  "health/else/then/c.fo.leader = health.Leader",
  "health/missed = 0",
  "health/if health.Signature != c.ring.Signature()",
  "health/then/if rehashSkipped",
  "health/then/then/c.rehash(health.Nodes)",
  "health/then/then/c.invalidateProxySubs(\"\")",
  "health/then/then/c.gcProxySessions(health.Nodes)",
  "health/then/then/rehashSkipped = false",
  "health/then/then/globals.hub.rehash <- true",
  "health/then/else",
  "health/then/else/rehashSkipped = true",
  "tick/if c.fo.leader == c.thisNodeName",
  "tick/then/c.sendHealthChecks()",
  "tick/else",
  "tick/else/missed++",
  "tick/else/if missed >= c.fo.voteTimeout",
  "tick/else/then/missed = 0",
  "tick/else/then/c.electLeader()",
  "elect/c.fo.term++",
  "elect/c.fo.leader = \"\"",
  "elect/nodeCount := len(c.nodes)",
  "elect/expectVotes := (nodeCount+1)>>1 + 1",
  "elect/done := make(chan *rpc.Call, nodeCount)",
  "elect/range c.nodes",
  "elect/range/response := ClusterVoteResponse{}",
  "elect/range/node.callAsync(\"Cluster.Vote\", &ClusterVoteRequest{ Node: c.thisNodeName, Term: c.fo.term, }, &response, done)",
  "elect/voteCount := 1",
  "elect/timeout := time.NewTimer(c.fo.heartBeat>>1 + c.fo.heartBeat)",
  "elect/for i := 0; i < nodeCount && voteCount < expectVotes; ",
  "elect/for/select-case call := <-done",
  "elect/for/case[call := <-done]/if call.Error == nil",
  "elect/for/case[call := <-done]/then/if call.Reply.(*ClusterVoteResponse).Result",
  "elect/for/case[call := <-done]/then/then/voteCount++",
  "elect/for/case[call := <-done]/then/else",
  "elect/for/case[call := <-done]/then/else/if c.fo.term < call.Reply.(*ClusterVoteResponse).Term",
  "elect/for/case[call := <-done]/then/else/then/i = nodeCount",
  "elect/for/case[call := <-done]/then/else/then/voteCount = 0",
  "elect/for/case[call := <-done]/i++",
  "elect/for/select-case <-timeout.C",
  "elect/for/case[<-timeout.C]/i = nodeCount",
  "elect/if voteCount >= expectVotes",
  "elect/then/c.fo.leader = c.thisNodeName"
]

theorem shape_ok : Gen.Election.shape = expectedShape := by rfl

/-- the node's term is written by the three statements the interleaving model takes from the source, each with its guard statement present in the shape (`badTermWrites` tests membership, not position: `shape_ok` pins the order), and by
no other statement of the election code (a weaker, more stable obligation than `shape_ok`: it survives a harmless rewrite elsewhere) -/
theorem term_writes_guarded : Election.badTermWrites Gen.Election.shape = [] := by
  -- the statements are written as `String.ofList` of their characters before the kernel evaluates (see `writesTerm_comp_ofList`)
  rw [show Gen.Election.shape = List.map String.ofList _ by
        repeat apply cons_eq_map_ofList
        exact List.map_nil.symm,
    badTermWrites, List.filter_map, writesTerm_comp_ofList]
  decide +kernel

/-- **Signature gate**: two of the inter-node entry points, `TopicMaster` and `Route` (the other RPC methods of cluster.go are not covered), compare the sender's ring signature with their own and
return without serving the request when they differ (`TopicMaster` deals with a `Gone` message before the comparison). (Both report the rejection; `Route` does it inside a logging closure, and the translator drops log
statements: cluster.go:620-633.) -/
theorem sig_gate : Gen.Election.signatureGates =
    ["TopicMaster: if msg.Signature != c.ring.Signature() { *rejected = true; return nil }",
     "Route: if msg.Signature != c.ring.Signature() { return nil }"] := by rfl

def SelfLeader (w : World) (i : Nat) : Prop := (w.nodes i).leader = some i ∧ (w.nodes i).electing = none
instance (w : World) (i : Nat) : Decidable (SelfLeader w i) := by unfold SelfLeader; infer_instance

/-- **A node grants at most one vote per term** (its own candidacy counts as its vote), in every reachable state. -/
theorem one_vote_per_term (n : Nat) (acts : List Act) (v : Nat) (t : Int) (c c' : Nat)
    (h1 : (v, t, c) ∈ (run (init n) acts).granted) (h2 : (v, t, c') ∈ (run (init n) acts).granted) : c = c' :=
  (inv_reachable n acts).1.gfun v t c c' h1 h2

/-- **Majority needed**: a node considers itself leader in term T only if strictly more than half of all
configured nodes (itself included) voted for it in term T. -/
theorem majority_needed (n : Nat) (acts : List Act) (i : Nat) (h : SelfLeader (run (init n) acts) i) :
    ∃ vs : List Nat, vs.Nodup ∧ (∀ v ∈ vs, (v, ((run (init n) acts).nodes i).term, i) ∈ (run (init n) acts).granted) ∧
      n < 2 * vs.length :=
  let ⟨vs, hv, hm⟩ := (inv_reachable n acts).1.majority h.1
  ⟨vs, hv.1, hv.2, (inv_reachable n acts).2 ▸ hm⟩

/-- **Election safety**: whatever messages are lost, delayed or reordered, no two nodes consider themselves
leader in the same term. -/
theorem election_safety (n : Nat) (acts : List Act) (i j : Nat)
    (hi : SelfLeader (run (init n) acts) i) (hj : SelfLeader (run (init n) acts) j)
    (ht : ((run (init n) acts).nodes i).term = ((run (init n) acts).nodes j).term) : i = j :=
  (inv_reachable n acts).1.leader_unique hi.1 hj.1 ht

theorem term_monotone (w w' : World) (a : Act) (h : step w a = some w') (i : Nat) :
    (w.nodes i).term ≤ (w'.nodes i).term := by
  simpa [h] using (evolves_step w a).term i

/-- **Stale-term leaders are ignored; an accepted health check installs its sender as leader at its term.**
(One delivery step of a health message to a node whose event loop is free.) -/
theorem health_step (w : World) (k l j : Nat) (t : Int) (hm : w.net[k]? = some (Msg.health l j t))
    (hfree : (w.nodes j).electing = none) :
    ∃ w', step w (.deliver k) = some w' ∧
      (t < (w.nodes j).term → w'.nodes j = w.nodes j) ∧
      ((w.nodes j).term ≤ t → (w'.nodes j).leader = some l ∧ (w'.nodes j).term = t) := by
  have hs := healthStale_iff t (w.nodes j).term
  have hn := healthNewer_iff t (w.nodes j).term
  simp only [step, hm, hfree, ne_eq, not_true_eq_false, if_false]
  by_cases h1 : healthStale t (w.nodes j).term = true
  · rw [if_pos h1]; exact ⟨_, rfl, fun _ => rfl, fun _ => by have := hs.mp h1; omega⟩
  have hns : ¬ t < (w.nodes j).term := mt hs.mpr h1
  rw [if_neg h1]
  by_cases h2 : healthNewer t (w.nodes j).term = true
  · rw [if_pos h2]; exact ⟨_, rfl, fun h => absurd h hns, fun _ => by simp [setNode_same]⟩
  have heq : (w.nodes j).term = t := by have := mt hn.mpr h2; omega
  rw [if_neg h2]
  by_cases hl : (w.nodes j).leader = some l
  · rw [if_neg (not_not_intro hl)]; exact ⟨_, rfl, fun h => absurd h hns, fun _ => ⟨hl, heq⟩⟩
  · rw [if_pos hl]; exact ⟨_, rfl, fun h => absurd h hns, fun _ => by simp [setNode_same, heq]⟩

/-- **A leader that can reach no more than half of the configured nodes is partitioned** (and `Session.dispatch`
answers 502 while `isPartitioned` holds, session.go:596-601): with `n` configured nodes and `a` active ones. -/
theorem partitioned_leader_stops (n a : Nat) (hn : 0 < n) :
    isPartitioned ((n : Int) - 1) (a : Int) = true ↔ 2 * a ≤ n := by
  simp only [isPartitioned, decide_eq_true_eq]
  rw [show (n : Int) - 1 + 1 = n by omega, Int.tdiv_eq_ediv_of_nonneg (by omega)]
  omega

/-- the premise `SelfLeader` is met: a three-node schedule that elects node 0 in term 1 -/
example : SelfLeader (run (init 3) [.timeout 0, .deliver 0, .deliver 1, .finish 0]) 0 := by decide

end election

end Tinode.Props.C17
