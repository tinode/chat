import TinodeVerif.Model.TopicSys
import TinodeVerif.Proofs.Acs
/-!
C03 / C07, the system topic (`Model/TopicSys.lean`): "the system topic accepts any logged-in author without attachment" (C03:
`sys_pub_needs_nothing`, `sys_pub_refusals`) and "the system topic [admits] only root" (C07: `sys_sub_root_only`, `sys_modes_within`).
All four are in the namespace `Tinode.Props.C03`.
-/
namespace Tinode.Props.C03
open Tinode.World Tinode.Acs

/-- a publish to the loaded system topic is not asked for an attachment nor for write permission: once the message is saved it is
delivered, whoever the author is -/
theorem sys_pub_needs_nothing (c : Ctx) (a : Actor) (content : String) (head : List (String × String)) (noEcho : Bool) (t : Topic)
    (hl : c.w.live? sysName = some t) (hact : t.inactive = false) (hro : t.readOnly = false) :
    let m : MsgRow := { seq := t.lastId + 1, sender := a.uid, head := pubHead a head, content := some content }
    let r := c.saveMessage sysName m (isReader (eff (t.pud a.uid)) && a.uid ≠ "")
    c.opPubSys a content head noEcho =
      (match r.2 with | none => r.1.emit a.sid (ctrl 500 sysName) | some marked => r.1.deliverPub t a m marked noEcho) := by
  intro m r
  unfold Ctx.opPubSys
  simp only [hl, hact, hro, Bool.false_eq_true, if_false]
  rfl

/-- a publish to the system topic while it is shutting down is refused with 503. Of the refusals of `opPubSys` only this one is
stated: a read-only topic gives 403 by the same unfolding, a failed save 500 by `sys_pub_needs_nothing`; none depends on the author. -/
theorem sys_pub_refusals (c : Ctx) (a : Actor) (content : String) (head : List (String × String)) (noEcho : Bool) (t : Topic)
    (hl : c.w.live? sysName = some t) (hin : t.inactive = true) :
    c.opPubSys a content head noEcho = c.emit a.sid (ctrl 503 sysName) := by
  unfold Ctx.opPubSys
  simp [hl, hin]

/-- only a root session gets a subscription to `sys`: anybody else is refused, nothing is stored, nothing changes -/
theorem sys_sub_root_only (c : Ctx) (t : Topic) (a : Actor) (want : String) (priv : PrivArg) (nf : Bool) (m : Mode)
    (hnew : t.pud? a.uid = none) (hlvl : a.lvl ≠ .root)
    (hparse : (if want = "" then Except.ok modeUnset else (unmarshal modeUnset want.toList)) = .ok m) :
    c.thisUserSubSys t a want priv nf = (c.emit a.sid (ctrl 403 sysName), t, none) := by
  unfold Ctx.thisUserSubSys
  simp only [hparse, hnew]
  simp [hlvl]

/-- The requested mode which `thisUserSubSys` writes for a FIRST subscription (with the grant `modeCSys`) has no bit outside
JRWPD. The left disjunct is proved, for every `m`; the right one is never needed. A change to an existing subscription takes the
other branch of the handler, which masks with `modeCSys` by itself, and is not covered. -/
theorem sys_modes_within (m : Mode) :
    ((if m = modeUnset then modeCSys else (m &&& modeCSys) ||| modeWrite ||| modeJoin) &&& ~~~modeCSys) = 0 ∨ m = modeUnset := by
  left
  split
  · exact BitVec.and_not_self _
  · exact and_not_of_within (or_within (or_within (mask_within m _) (by decide)) (by decide))

end Tinode.Props.C03
