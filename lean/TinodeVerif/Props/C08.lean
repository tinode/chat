import TinodeVerif.Props.C01
import TinodeVerif.Props.C03
import TinodeVerif.Props.C09
/-!
C08 — the live topic state and the stored state never diverge.

`loadTopic` is what a client sees after an unload/reload or a restart; `CoreCoherent t r` (the description and the counters) and
`SubCoherent p s` (one subscription) say that the loaded topic answers queries as `loadTopic r` would. Refusals other than that of
a publish: C09 `refused_note_no_effect`, C06 `owner_cannot_be_evicted`, `nonowner_cannot_edit_description`.
The full property is FALSE of the model and of the code; three of the ways in which it fails are proved here by a witness each,
all are recorded as known findings: a {set} from a session which is not attached, a publish whose MessageSave fails, a {note read}
beyond the recv mark (witnesses below), re-subscribing over a soft-deleted row and the others of DESIGN.md A5 (no witness here).
-/
namespace Tinode.Props.C08
open Tinode.World

/-- what queries on the description and the counters see -/
structure CoreCoherent (t : Topic) (r : TopicRow) : Prop where
  seq : t.lastId = r.seq
  del : t.delId = r.del
  auth : t.auth = r.auth
  anon : t.anon = r.anon
  pub : t.pub = r.pub
  tr : t.tr = r.tr
  tags : t.tags = r.tags

/-- what {get sub} sees for one user -/
def SubCoherent (p : PUD) (s : SubRow) : Prop :=
  p.want = s.want ∧ p.given = s.given ∧ p.readId = s.readId ∧ p.recvId = s.recvId ∧ p.delId = s.delId ∧ p.priv = s.priv

theorem load_core_coherent (r : TopicRow) : CoreCoherent (loadTopic r) r := ⟨rfl, rfl, rfl, rfl, rfl, rfl, rfl⟩

/-- every live subscription row, with its marks and private data; soft-deleted rows are not loaded -/
theorem load_subs (r : TopicRow) :
    (loadTopic r).perUser = (r.subs.filter (!·.deleted)).map (fun s =>
      (s.user, { readId := s.readId, recvId := s.recvId, delId := s.delId, priv := s.priv, want := s.want, given := s.given })) := rfl

/-- an accepted publish keeps the counter coherent: the loaded and the stored counter are the same, and the
stored log ends with the message numbered `lastId + 1` -/
theorem pub_keeps_counter_coherent (c : Ctx) (a : Actor) (tn : TName) (content : String) (head : List (String × String)) (noEcho : Bool)
    (t : Topic) (r : TopicRow) (g : C01.Guards c a tn t) (hrow : c.w.row? tn = some r) (hf : c.failK = 0) :
    ∃ t' r', (c.opPub a tn content head noEcho).w.live? tn = some t' ∧ (c.opPub a tn content head noEcho).w.row? tn = some r' ∧
      t'.lastId = r'.seq ∧ r'.msgs = r.msgs ++ [{ seq := t.lastId + 1, sender := a.uid, head := pubHead a head, content := some content }] := by
  obtain ⟨_, hl, r', hr', hq, hm⟩ := C01.accepted_number c a tn content head noEcho t r g hrow hf
  obtain ⟨t', hlv, hl⟩ := Option.map_eq_some_iff.mp hl
  exact ⟨t', r', hlv, hr', by rw [hl, hq], hm⟩

theorem refused_pub_changes_nothing (c : Ctx) (a : Actor) (tn : TName) (content : String) (head : List (String × String)) (noEcho : Bool)
    (hl : c.w.attached a.sid tn = true → (c.w.live? tn).isSome) (h : C03.pubAllowed c.w a tn = false) :
    (c.opPub a tn content head noEcho).w = c.w :=
  (C03.pub_refused_no_effect c a tn content head noEcho hl h _ rfl).1

/-! ### three ways in which the property fails (witnesses; each is replayed on the code by the world stream) -/

def wS1 : Sess := { sid := "S1", uid := "U1", lvl := .auth, subs := ["T1"] }
def wS2 : Sess := { sid := "S2", uid := "U1", lvl := .auth, subs := [] }
def wT : Topic := { name := "T1", lastId := 3, perUser := [("U1", { want := 0x0F, given := 0x0F })], sessions := [("S1", "U1")] }
def wR : TopicRow := { name := "T1", seq := 3, subs := [{ user := "U1", want := 0x0F, given := 0x0F }] }
def wA2 : Actor := { sid := "S2", sessUid := "U1", uid := "U1", lvl := .auth, bg := false }
def wW : World := { sess := [wS1, wS2], live := [wT], store := [wR], nextT := 2 }

/-- (1) known finding `offline-set`: a second session of the same user, not attached, sets the requested mode: the store
row changes, the loaded topic does not -/
theorem offline_set_diverges :
    ((({ w := wW } : Ctx).opSetSub wA2 "T1" "" "JRW").w.row? "T1").map (fun r => r.subs.map (·.want)) = some [0x07] ∧
    ((({ w := wW } : Ctx).opSetSub wA2 "T1" "" "JRW").w.live? "T1").map (fun t => (t.pud "U1").want) = some 0x0F := by decide

/-- (2) known finding `failed-save`: see `C01.failed_save_consumes_number_after_reload` -/
theorem failed_save_diverges :
    ((C01.wC.opPub C01.wA "T1" "C1" [] false).w.row? "T1").map (·.seq) = some 1 ∧
    ((C01.wC.opPub C01.wA "T1" "C1" [] false).w.live? "T1").map (·.lastId) = some 0 := by decide

/-- (3) known finding F2: see `C09.read_note_leaves_stored_recv_behind` -/
theorem read_note_diverges :
    ((C09.wC.opNote C09.wA "T1" "read" 2).w.live? "T1").map (fun t => (t.pud "U1").recvId) = some 2 ∧
    ((C09.wC.opNote C09.wA "T1" "read" 2).w.row? "T1").map (fun r => r.subs.map (·.recvId)) = some [0] := by decide

end Tinode.Props.C08
