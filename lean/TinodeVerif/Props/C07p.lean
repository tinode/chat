import TinodeVerif.Model.TopicP2P
import TinodeVerif.Proofs.World
import TinodeVerif.Proofs.Modes
import TinodeVerif.Proofs.Guards
/-!
C07, the peer-to-peer clause: "a peer-to-peer topic never has a third participant and its modes never exceed
join/read/write/presence/approve and always keep approve".

The modes: every grant which a p2p handler writes and every mode a participant requests is `p2pSan` of something, or built from
such modes by adding permissions within JRWPA or clearing the owner bit, which keep both clauses (`P2PMode.or`, `P2PMode.clearOwner`).
The requested mode recorded for a participant who is invited again is the previous one without O (`inviteWantPrev`, when the deleted row is
found) or the account's default limited by the grant (`inviteWantDefault`): within JRWPA, not necessarily with A. The participants: `anotherUserSubP2P` refuses any user who is not cached in the topic, and
the handlers of {sub} and {set sub} and the eviction (`thisUserSubP2P`, `anotherUserSubP2P`, `evictUserP2P`) add no key to
`perUser` (`opLeaveP2P`, `fgP2P`, `dropP2P` and `subscriptionReplyP2P` cache the user of the session at hand: no theorem here is about them); `initP2P` caches the two users of the topic's name when it creates anything.
-/
namespace Tinode.Props.C07
open Tinode.World Tinode.Acs

/-- no permission beyond join/read/write/presence/approve: "within the mask `c`" of Proofs/Acs.lean (`· &&& c = ·`) at
`c = modeCP2P`, so that `mask_within`, `and_within`, `or_within` apply as they stand -/
def Within (m : Mode) : Prop := m &&& modeCP2P = m
/-- what the property asks of a mode in a p2p topic -/
def P2PMode (m : Mode) : Prop := Within m ∧ isApprover m = true

/-- the sanity mask: whatever the client asks for, the result is within JRWPA and has A -/
theorem p2pSan_mode (m : Mode) : P2PMode (p2pSan m) :=
  ⟨or_within (mask_within m _) (by decide), (or_of_bit isApprover_bit _ _).trans (Bool.or_true _)⟩

example : P2PMode (p2pSan modeCFull) ∧ p2pSan modeCFull = modeCP2P ∧ p2pSan modeNone = modeApprove := by
  refine ⟨p2pSan_mode _, by decide, by decide⟩

theorem P2PMode.or {a b : Mode} (ha : P2PMode a) (hb : Within b) : P2PMode (a ||| b) :=
  ⟨or_within ha.1 hb, by rw [or_of_bit isApprover_bit, ha.2, Bool.true_or]⟩

theorem P2PMode.clearOwner {a : Mode} (ha : P2PMode a) : P2PMode (a &&& ~~~modeOwner) :=
  ⟨and_within _ ha.1, by rw [isApprover_and, ha.2]; rfl⟩

/-! ### the modes written when a p2p topic is created (initTopicP2P) -/

/-- the requester's own mode at creation: the default handed in (what the requester gives the other side), or - when the {sub} sets a mode - the
requested mode masked, with J added -/
theorem init_want_mode (dflt : Mode) (hd : P2PMode dflt) (hasSetSub : Bool) (userArg me : Uid) (mode : String) :
    P2PMode (p2pInitWant dflt hasSetSub userArg me mode) := by
  unfold p2pInitWant
  refine ite_ind (fun _ => hd) fun _ => P2PMode.or ?_ (rfl : Within modeJoin)
  exact ite_ind (fun _ => hd) fun _ => p2pSan_mode _

/-! ### a participant's own request (thisUserSub) -/

/-- an explicit mode is masked; ownership cannot be asked for -/
theorem self_mode_p2p (ud0 : PUD) (w m : Mode) (h : selfModeCheckP2P ud0 w = .ok m) : m = modeUnset ∨ P2PMode m := by
  unfold selfModeCheckP2P at h
  split at h
  · cases h; exact .inl ‹_›
  -- an explicit mode comes back as `p2pSan w`, or is refused
  right
  split at h
  · cases h; exact p2pSan_mode w
  · obtain ⟨_, h⟩ := passed h nofun
    cases h; exact p2pSan_mode w

/-- a participant whose grant lacks O - as every p2p mode does - cannot ask for ownership: the request is refused -/
theorem ownership_not_requested_p2p (ud0 : PUD) (w : Mode) (hw : w ≠ modeUnset) (ho : isOwner w = true) (hg : isOwner ud0.given = false) :
    selfModeCheckP2P ud0 w = .error () := by
  unfold selfModeCheckP2P; simp [hw, ho, hg]

/-- the requested mode after the checks stays a p2p mode: the un-self-ban restores the grant (plus the root default), never
ownership -/
theorem self_want_p2p (lvl : Level) (ud : PUD) (oldWant m : Mode) (hw : P2PMode ud.want) (hg : P2PMode ud.given)
    (hm : m = modeUnset ∨ P2PMode m) : P2PMode (selfWantP2P lvl ud oldWant m).want := by
  unfold selfWantP2P
  split
  · split
    · have ha : Within (accessForP2P lvl) := by cases lvl <;> rfl
      exact (hg.or ha).clearOwner
    · exact hw
  · rename_i hne
    split
    · exact hm.resolve_left hne
    · exact hw

/-! ### the other participant's grant (anotherUserSub) -/

/-- the grant a request on the other participant's subscription names: none, or masked -/
theorem grant_p2p (g : Mode) : p2pGrant g = modeUnset ∨ P2PMode (p2pGrant g) := by
  unfold p2pGrant; split
  · exact Or.inl rfl
  · exact Or.inr (p2pSan_mode g)

/-- inviting the participant who has left: the explicit (masked) grant, or the masked default -/
theorem reinvite_given_mode (g : Mode) : P2PMode (p2pReinviteGiven (p2pGrant g)) := by
  unfold p2pReinviteGiven
  split
  · exact p2pSan_mode _
  · exact (grant_p2p g).resolve_left ‹_›

/-- the requested mode recorded for the invited participant is within JRWPA when the grant is: it is the account's default
limited by the grant -/
theorem invite_want_default_within (userAuth g : Mode) (hg : Within g) : Within (inviteWantDefault userAuth g) := by
  unfold inviteWantDefault
  rw [BitVec.and_comm userAuth g, BitVec.and_assoc]
  exact and_within _ hg

/-- the previous requested mode of an invited participant, taken over without ownership, stays within JRWPA -/
theorem invite_want_prev_within (w : Mode) (hw : Within w) : Within (inviteWantPrev w) := by
  unfold inviteWantPrev; exact and_within _ hw

/-- a user who is not cached in the p2p topic cannot be subscribed to it by a participant: nothing happens to the topic -/
theorem no_third_participant (c : Ctx) (t : Topic) (a : Actor) (target : Uid) (mode : String) (h : t.pud? target = none) :
    (c.anotherUserSubP2P t a target mode).2 = (t, none) := by
  let P (r : Ctx × Topic × Option SubResult) : Prop := r.2 = (t, none)
  unfold Ctx.anotherUserSubP2P
  extract_lets tn host hostMode
  refine ite_ind (P := P) (fun _ => rfl) fun _ => ?_
  refine ite_ind (P := P) (fun _ => rfl) fun _ => ?_
  split
  · rfl
  extract_lets mg0
  refine ite_ind (P := P) (fun _ => rfl) fun _ => ?_
  -- the target is not cached: the `match` takes its `none` exit, which returns `t` (closed by `rfl` after the rewrite)
  rw [h]

/-- when `initTopicP2P` returns a topic `i` of which `need` holds, the topic caches the requester and the user named in the request,
nobody else -/
def CachesTwo (a : Actor) (peer : Uid) (need : P2PInit → Prop) (r : Ctx × Option P2PInit) : Prop :=
  ∀ i, r.2 = some i → need i → i.t.perUser.map (·.1) = [a.uid, peer]

section
variable {a : Actor} {peer : Uid} {need : P2PInit → Prop} {c : Ctx}

theorem CachesTwo.none : CachesTwo a peer need (c, none) := fun _ h => nomatch h

theorem CachesTwo.some {i : P2PInit} (h : need i → i.t.perUser.map (·.1) = [a.uid, peer]) : CachesTwo a peer need (c, some i) :=
  fun _ hi => Option.some.inj hi ▸ h

end

theorem p2pMake_cachesTwo {c : Ctx} {a : Actor} {peer : Uid} {mode : String} {priv : PrivArg} {userArg : Uid} {re : Bool}
    {subs : List SubRow} {l d : Int} {ro : Bool} {need : P2PInit → Prop} :
    CachesTwo a peer need (c.p2pMake a peer mode priv userArg re subs l d ro) := by
  unfold Ctx.p2pMake
  extract_lets key
  -- (a `split` with one goal after it takes the pair returned by a store call apart)
  -- the two accounts are read: a failure is 500
  split
  refine ite_ind (fun _ => .none) fun _ => ?_
  split
  · -- both exist; the requester's earlier grant is looked up: a failure is 500
    split
    split
    · exact .none
    -- the plan and the write, which may fail with 500; the exit after it is the only one that returns a topic, and its `perUser` is
    -- literally `[(a.uid, _), (peer, _)]`
    extract_lets p
    split
    exact ite_ind (fun _ => .none) fun _ => .some fun _ => rfl
  · -- an account is missing: 404
    exact .none

/-- cases 1 and 2 of initTopicP2P cache the requester and the user named in the request, nobody else -/
theorem made_with_two (c : Ctx) (a : Actor) (peer : Uid) (mode : String) (priv : PrivArg) (userArg : Uid) (re : Bool) (subs : List SubRow)
    (l d : Int) (c' : Ctx) (i : P2PInit) (ro : Bool) (h : c.p2pMake a peer mode priv userArg re subs l d ro = (c', some i)) :
    i.t.perUser.map (·.1) = [a.uid, peer] :=
  p2pMake_cachesTwo (need := fun _ => True) i (congrArg Prod.snd h) trivial

/-- the load paths of `initTopicP2P`: case 3 fails, case 4 attaches what is stored and creates nothing, cases 1 and 2 are `p2pMake` -/
theorem initP2P_cachesTwo (c : Ctx) (a : Actor) (peer : Uid) (mode : String) (priv : PrivArg) (userArg : Uid) :
    CachesTwo a peer (fun i => i.created = true ∨ i.newsub = true) (c.initP2P a peer mode priv userArg) := by
  unfold Ctx.initP2P
  extract_lets key fail
  split
  refine ite_ind (fun _ => .none) fun _ => ?_
  extract_lets row r1
  clear_value r1
  split
  · exact .none
  refine ite_ind (fun _ => .none) fun _ => ?_
  extract_lets lastId
  exact ite_ind (fun _ => .some fun hc => hc.elim nofun nofun) fun _ => p2pMake_cachesTwo

/-- a p2p topic which initTopicP2P creates, or in which it makes a subscription, has the two users of its name and nobody else -/
theorem created_with_two (c : Ctx) (a : Actor) (peer : Uid) (mode : String) (priv : PrivArg) (userArg : Uid) (c' : Ctx) (i : P2PInit)
    (h : c.initP2P a peer mode priv userArg = (c', some i)) (hc : i.created = true ∨ i.newsub = true) :
    i.t.perUser.map (·.1) = [a.uid, peer] :=
  initP2P_cachesTwo c a peer mode priv userArg i (congrArg Prod.snd h) hc

/-- the subscriptions initTopicP2P writes have p2p modes, given that the one it found (if any) has -/
theorem plan_modes (a : Actor) (peer : Uid) (u1 u2 : User) (subs : List SubRow) (mode : String) (priv : PrivArg) (userArg : Uid) (pg : Option Mode)
    (hs : ∀ s ∈ subs, P2PMode s.want ∧ P2PMode s.given) :
    P2PMode (p2pPlan a peer u1 u2 subs mode priv userArg pg).sub1.want ∧ P2PMode (p2pPlan a peer u1 u2 subs mode priv userArg pg).sub1.given ∧
    P2PMode (p2pPlan a peer u1 u2 subs mode priv userArg pg).sub2.want ∧ P2PMode (p2pPlan a peer u1 u2 subs mode priv userArg pg).sub2.given := by
  -- a subscription which the plan takes over is one of `subs`
  have found : ∀ {p : SubRow → Bool} {s}, (if subs.length = 1 then subs.find? p else none) = some s →
      P2PMode s.want ∧ P2PMode s.given := by
    intro p s h
    split at h
    · exact hs s (List.mem_of_find?_eq_some h)
    · cases h
  unfold p2pPlan
  -- one it makes has modes from `p2pSan`, or `p2pInitWant` of the other's grant
  cases h1 : (if subs.length = 1 then subs.find? (·.user = a.uid) else none) <;>
    cases h2 : (if subs.length = 1 then subs.find? (·.user ≠ a.uid) else none)
  · exact ⟨init_want_mode _ (p2pSan_mode _) .., p2pSan_mode _, p2pSan_mode _, p2pSan_mode _⟩
  · exact ⟨init_want_mode _ (found h2).2 .., p2pSan_mode _, found h2⟩
  · exact ⟨(found h1).1, (found h1).2, p2pSan_mode _, p2pSan_mode _⟩
  · exact ⟨(found h1).1, (found h1).2, found h2⟩

/-- a participant who deleted the subscription and subscribes again when the topic is not loaded gets the previous grant
(masked), not the other account's default: a restriction set by the other participant sticks -/
theorem reload_restores_grant (a : Actor) (peer : Uid) (u1 u2 : User) (subs : List SubRow) (mode : String) (priv : PrivArg) (userArg : Uid)
    (g : Mode) (h : (if subs.length = 1 then subs.find? (·.user = a.uid) else none) = none) :
    (p2pPlan a peer u1 u2 subs mode priv userArg (some g)).sub1.given = p2pSan g ∧
    (p2pPlan a peer u1 u2 subs mode priv userArg (some g)).newsub = true := by
  unfold p2pPlan
  rw [h]
  exact ⟨rfl, rfl⟩

/-! ### the set of participants never changes once the topic is cached -/

def SameUsers (t t' : Topic) : Prop := t'.name = t.name ∧ t'.perUser.map (·.1) = t.perUser.map (·.1)

theorem SameUsers.rfl {t : Topic} : SameUsers t t := ⟨Eq.refl _, Eq.refl _⟩
theorem SameUsers.trans {t t' t'' : Topic} (h : SameUsers t t') (h' : SameUsers t' t'') : SameUsers t t'' :=
  ⟨h'.1.trans h.1, h'.2.trans h.2⟩

theorem SameUsers.setPud {t : Topic} {u : Uid} {p : PUD} (q : PUD) (h : t.pud? u = some p) : SameUsers t (t.setPud u q) := by
  -- `alSet` replaces, since `alGet` has found an entry under `u`
  obtain ⟨e, he, _⟩ := Option.map_eq_some_iff.mp h
  refine ⟨Eq.refl _, ?_⟩
  unfold Topic.setPud alSet
  rw [if_pos (List.any_eq_true.mpr ⟨e, List.mem_of_find?_eq_some he, List.find?_some he⟩)]
  exact map_key_replace (·.1) t.perUser (u, q)

theorem SameUsers.evict (c : Ctx) (t : Topic) (u : Uid) (unsub : Bool) (skip : Sid) : SameUsers t (c.evictUserP2P t u unsub skip).2 := by
  unfold Ctx.evictUserP2P
  cases h : t.pud? u with
  | none => exact .rfl
  | some p =>
    -- the topic returned is `t.setPud u _` with sessions taken out: its name and its `perUser` are those of `t.setPud u _`
    exact ⟨Eq.refl _, (SameUsers.setPud _ h).2⟩

/-- the topic which a handler returns has the name and the users of `t` -/
def Keeps (t : Topic) (r : Ctx × Topic × Option SubResult) : Prop := SameUsers t r.2.1

/-- the common end of both handlers: the user who lost `J` is evicted -/
theorem Keeps.evictTail {t t' : Topic} (h : SameUsers t t') (c : Ctx) (u : Uid) (res : Option SubResult) :
    Keeps t (match c.evictUserP2P t' u false "" with | (c, t) => (c, t, res)) :=
  h.trans (SameUsers.evict c t' u false "")

theorem Keeps.putLive {t : Topic} {r : Ctx × Topic × Option SubResult} (k : Keeps t r) (c : Ctx) :
    ∃ t', (c.putLive r.2.1).w.live? t.name = some t' ∧ t'.perUser.map (·.1) = t.perUser.map (·.1) :=
  ⟨r.2.1, by rw [← k.1]; exact live_setLive _ _, k.2⟩

theorem anotherUserSubP2P_keeps (c : Ctx) (t : Topic) (a : Actor) (target : Uid) (mode : String) :
    Keeps t (c.anotherUserSubP2P t a target mode) := by
  unfold Ctx.anotherUserSubP2P
  extract_lets tn host hostMode
  refine ite_ind (fun _ => .rfl) fun _ => ?_
  refine ite_ind (fun _ => .rfl) fun _ => ?_
  split
  · exact .rfl
  extract_lets mg0 mg
  refine ite_ind (fun _ => .rfl) fun _ => ?_
  split
  · exact .rfl
  rename_i ud0 hud
  refine ite_ind (fun _ => ?_) fun _ => ?_
  · -- the other participant has left and is invited again
    split
    split
    · exact .rfl
    -- the requested mode is looked up; nothing below depends on how
    extract_lets res
    clear_value res
    split
    · exact .rfl
    refine ite_ind (fun _ => .rfl) fun _ => ?_
    split
    refine ite_ind (fun _ => .rfl) fun _ => ?_
    extract_lets ud t' c1 c2
    exact ite_ind (fun _ => .evictTail (.setPud _ hud) ..) fun _ => .setPud _ hud
  · extract_lets oldGiven oldWant modeGiven r
    clear_value r
    refine ite_ind (fun _ => .rfl) fun _ => ?_
    split
    · exact .rfl
    extract_lets t' changed c1 mc
    exact ite_ind (fun _ => .evictTail (.setPud _ hud) ..) fun _ => .setPud _ hud

theorem thisUserSubP2P_keeps (c : Ctx) (t : Topic) (a : Actor) (want : String) (priv : PrivArg) (n : Bool) :
    Keeps t (c.thisUserSubP2P t a want priv n) := by
  unfold Ctx.thisUserSubP2P
  extract_lets tn
  split
  · exact .rfl
  split
  · exact .rfl
  rename_i ud0 hud
  -- the checks and the store write; nothing below depends on what they are
  extract_lets wantM ud oldWant oldGiven r
  clear_value r
  split
  · exact .rfl
  extract_lets c1 t' changed c2 mc
  refine ite_ind (fun _ => .evictTail (.setPud _ hud) ..) fun _ => ?_
  exact ite_ind (fun _ => .setPud _ hud) fun _ => .setPud _ hud

/-- evicting a participant (leaving for good included) keeps both participants cached -/
theorem evict_keeps_participants (c : Ctx) (t : Topic) (u : Uid) (unsub : Bool) (skip : Sid) :
    (c.evictUserP2P t u unsub skip).2.perUser.map (·.1) = t.perUser.map (·.1) := (SameUsers.evict c t u unsub skip).2

theorem self_keeps_participants (c : Ctx) (t : Topic) (a : Actor) (want : String) (priv : PrivArg) (n : Bool) :
    (c.thisUserSubP2P t a want priv n).2.1.perUser.map (·.1) = t.perUser.map (·.1) := (thisUserSubP2P_keeps c t a want priv n).2

theorem other_keeps_participants (c : Ctx) (t : Topic) (a : Actor) (target : Uid) (mode : String) :
    (c.anotherUserSubP2P t a target mode).2.1.perUser.map (·.1) = t.perUser.map (·.1) := (anotherUserSubP2P_keeps c t a target mode).2

/-- {set sub} on an attached p2p topic, whoever it names: the topic stays cached with the same two participants -/
theorem setsub_keeps_participants (c : Ctx) (a : Actor) (peer target : Uid) (mode : String) (t : Topic)
    (hp : peer ≠ a.uid) (hatt : c.w.attached a.sid (p2pKey a.uid peer) = true) (hl : c.w.live? (p2pKey a.uid peer) = some t) :
    ∃ t', (c.opSetSubP2P a peer target mode).w.live? (p2pKey a.uid peer) = some t' ∧ t'.perUser.map (·.1) = t.perUser.map (·.1) := by
  unfold Ctx.opSetSubP2P
  simp only [hp, if_false, hatt, Bool.not_true, Bool.false_eq_true, hl]
  -- whichever handler runs, the topic it returns is put back
  rw [← live_name hl]
  exact Keeps.putLive (ite_ind (fun _ => thisUserSubP2P_keeps ..) fun _ => anotherUserSubP2P_keeps ..) _

end Tinode.Props.C07
