import TinodeVerif.Model.TopicReq
import TinodeVerif.Proofs.Modes
import TinodeVerif.Proofs.Guards
/-!
C06 — a group topic has exactly one owner at all times.

The decisions which can create, move or remove ownership are the pure functions `newSubGiven`, `newSubWant`,
`selfModeCheck`, `selfWant`, `stripOwner`, `inviteRefused`, `inviteGiven`, `inviteWantPrev`, `inviteWantDefault`,
`grantRefused` (Model/TopicOps.lean) which `Ctx.thisUserSub` / `Ctx.anotherUserSub` only sequence with store calls; the
owner's exits are `Ctx.replyLeaveUnsub`, `Ctx.opDelSub`, `Ctx.opDelTopic`, `Ctx.opSetDesc`. Each theorem closes one way in
which a second owner could appear or the owner could disappear.
-/
namespace Tinode.Props.C06
open Tinode.World Tinode.Acs

/-! ### nobody becomes an owner by subscribing or by being invited -/

/-- a first-time subscriber is never given ownership by the topic's default access -/
theorem new_sub_grant_not_owner (defAcc : Mode) : isOwner (newSubGiven defAcc modeUnset) = false := by
  unfold newSubGiven; rw [if_pos rfl]; exact isOwner_clear defAcc

/-- a first-time subscriber never requests ownership, whatever mode string was sent -/
theorem new_sub_want_not_owner (defAcc modeWant0 : Mode) : isOwner (newSubWant defAcc modeWant0) = false := by
  unfold newSubWant; exact isOwner_clear _

/-- hence a first-time subscriber is not an effective owner, even when a previous (soft-deleted) grant contained O -/
theorem new_sub_not_effective_owner (defAcc given0 modeWant0 : Mode) :
    isOwner (newSubWant defAcc modeWant0 &&& newSubGiven defAcc given0) = false := by
  rw [isOwner_and, new_sub_want_not_owner]; rfl

/-- an invited user's recorded request never contains ownership: an offer of O has to be accepted explicitly -/
theorem invite_want_not_owner (prev userAuth given : Mode) :
    isOwner (inviteWantPrev prev) = false ∧ isOwner (inviteWantDefault userAuth given) = false := by
  unfold inviteWantPrev inviteWantDefault; exact ⟨isOwner_clear _, isOwner_clear _⟩

/-- a default invitation (no explicit mode) never offers ownership -/
theorem invite_default_not_owner (defAuth : Mode) : isOwner (inviteGiven defAuth modeUnset) = false := by
  unfold inviteGiven
  rw [if_pos rfl, or_of_bit isOwner_bit, isOwner_clear]
  rfl

/-- only the owner can offer ownership: anybody else's {set sub mode=..O} is refused -/
theorem only_owner_offers_ownership (owner actor : Uid) (hostMode g : Mode) (hg : isOwner g = true) (hne : owner ≠ actor) :
    inviteRefused owner actor hostMode g = true := by
  unfold inviteRefused; simp [hg, hne]

/-! ### an existing subscriber gets ownership only by accepting an offer -/

/-- a subscriber whose grant lacks O cannot request O -/
theorem nonowner_cannot_request_ownership (owner u : Uid) (ud0 : PUD) (w : Mode)
    (hw : w ≠ modeUnset) (hO : isOwner w = true) (hg : isOwner ud0.given = false) (hne : owner ≠ u) :
    selfModeCheck owner u ud0 w = .error () := by
  unfold selfModeCheck
  simp [hw, hO, hg, hne]

/-- `selfModeCheck` when it lets the request through, case by case: no explicit mode; the holder of an O grant (who may add what is
asked for, and accepts ownership by asking for O for the first time); anybody else, who cannot ask for O (an administrator may add
what is asked for, except D). One way only, and without the second guard: who asks (`owner`, `u`) does not occur in the conclusion - for the
owner's own request see `owner_cannot_give_up`. -/
theorem selfModeCheck_ok {owner u : Uid} {ud0 ud : PUD} {w m : Mode} {oc : Bool} (h : selfModeCheck owner u ud0 w = .ok (ud, m, oc)) :
    m = w ∧ ((w = modeUnset ∧ ud = ud0 ∧ oc = false) ∨
      (w ≠ modeUnset ∧ isOwner ud0.given = true ∧ oc = (isOwner w && !isOwner ud0.want) ∧
        (ud = ud0 ∨ isOwner w = true ∧ ud = { ud0 with given := ud0.given ||| w })) ∨
      (w ≠ modeUnset ∧ isOwner ud0.given = false ∧ isOwner w = false ∧ oc = false ∧
        (ud = ud0 ∨ isAdmin ud0.given = true ∧ isAdmin w = true ∧ ud = { ud0 with given := ud0.given ||| (w &&& ~~~modeDelete) }))) := by
  unfold selfModeCheck at h
  by_cases h1 : w = modeUnset
  · rw [if_pos h1] at h; cases h
    exact ⟨rfl, .inl ⟨h1, rfl, rfl⟩⟩
  rw [if_neg h1] at h
  obtain ⟨_, h⟩ := passed h nofun
  by_cases hg : isOwner ud0.given = true
  · rw [if_pos hg] at h; cases h
    refine ⟨rfl, .inr (.inl ⟨h1, hg, rfl, ?_⟩)⟩
    split
    · next hb => exact .inr ⟨hb.1, rfl⟩
    · exact .inl rfl
  rw [if_neg hg] at h
  obtain ⟨hw, h⟩ := passed h nofun
  by_cases ha : isAdmin ud0.given = true ∧ isAdmin w = true
  · rw [if_pos ha] at h; cases h
    refine ⟨rfl, .inr (.inr ⟨h1, by simpa using hg, by simpa using hw, rfl, ?_⟩)⟩
    split
    · exact .inr ⟨ha.1, ha.2, rfl⟩
    · exact .inl rfl
  · rw [if_neg ha] at h; cases h
    exact ⟨rfl, .inr (.inr ⟨h1, by simpa using hg, by simpa using hw, rfl, .inl rfl⟩)⟩

/-- the acceptance flag is raised exactly when a subscriber holding an offer (O granted) asks for O for the first time -/
theorem transfer_flag_iff (owner u : Uid) (ud0 : PUD) (w : Mode) (ud : PUD) (m : Mode) (oc : Bool)
    (h : selfModeCheck owner u ud0 w = .ok (ud, m, oc)) :
    oc = true ↔ (w ≠ modeUnset ∧ isOwner ud0.given = true ∧ isOwner w = true ∧ isOwner ud0.want = false) := by
  obtain ⟨_, ⟨h1, _, rfl⟩ | ⟨h1, hg, rfl, _⟩ | ⟨h1, hg, _, rfl, _⟩⟩ := selfModeCheck_ok h
  · simp [h1]
  · simp [h1, hg]
  · simp [hg]

/-- when the offer is accepted the previous owner loses ownership in both modes; marks and private data stay -/
theorem transfer_strips_previous_owner (od : PUD) :
    isOwner (stripOwner od).given = false ∧ isOwner (stripOwner od).want = false ∧
    (stripOwner od).readId = od.readId ∧ (stripOwner od).recvId = od.recvId ∧ (stripOwner od).priv = od.priv := by
  unfold stripOwner; exact ⟨isOwner_clear _, isOwner_clear _, rfl, rfl, rfl⟩

/-- re-joining without a mode (un-self-ban) never picks ownership up for anybody but the owner -/
theorem rejoin_not_owner (owner u : Uid) (defAcc : Mode) (ud : PUD) (oldWant : Mode) (hne : owner ≠ u)
    (hw : isOwner ud.want = false) : isOwner (selfWant owner u defAcc ud oldWant modeUnset).want = false := by
  unfold selfWant
  simp only [if_true, hne, ne_eq, not_false_eq_true]
  split
  · exact isOwner_clear _
  · exact hw

/-! ### the owner cannot be demoted, banned, evicted or leave -/

/-- the owner cannot drop O or J from the own request (`selfModeCheck`: requests served by the loaded topic; `setSubOffline` guards O only) -/
theorem owner_cannot_give_up (owner : Uid) (ud0 : PUD) (w : Mode) (hw : w ≠ modeUnset) (h : isOwner w = false ∨ isJoiner w = false) :
    selfModeCheck owner owner ud0 w = .error () := by
  unfold selfModeCheck
  rcases h with h | h <;> simp [hw, h]

/-- nobody can change the owner's grant to one without O or J -/
theorem owner_grant_protected (owner : Uid) (ud0 : PUD) (g : Mode) (hne : g ≠ ud0.given) (h : isOwner g = false ∨ isJoiner g = false) :
    grantRefused owner owner ud0 g = true := by
  unfold grantRefused
  rcases h with h | h <;> simp [hne, h]

/-- {leave unsub} by the owner is refused and changes nothing -/
theorem owner_cannot_unsubscribe (c : Ctx) (t : Topic) (a : Actor) (h : t.owner = a.uid) :
    c.replyLeaveUnsub t a = (c.emit a.sid (ctrl 403 t.name), t) := by
  unfold Ctx.replyLeaveUnsub; simp [h]

/-- {del sub} cannot evict an effective owner: the world and the log of store calls are unchanged -/
theorem owner_cannot_be_evicted (c : Ctx) (a : Actor) (tn : TName) (target : Uid) (t : Topic) (pud : PUD)
    (hatt : c.w.attached a.sid tn = true) (hlive : c.w.live? tn = some t) (hp : t.pud? target = some pud)
    (ho : isOwner (eff pud) = true) :
    (c.opDelSub a tn target).w = c.w ∧ (c.opDelSub a tn target).calls = c.calls := by
  unfold Ctx.opDelSub
  simp only [hatt, Bool.not_true, Bool.false_eq_true, if_false, hlive]
  -- the requester is refused for having neither O nor A (or for naming nobody, or the own account) before the target is looked at;
  -- a requester who passes is refused at the target's O
  refine ite_ind (P := fun r : Ctx => r.w = c.w ∧ r.calls = c.calls) (fun _ => ⟨rfl, rfl⟩) fun _ => ?_
  simp only [hp, ho, true_or, if_true]
  exact ⟨rfl, rfl⟩

/-! ### only the owner deletes the topic or edits its description -/

/-- {del topic} on a loaded topic from anybody but the owner is handled as that user's own unsubscribe: `opDelTopic` is
`replyLeaveUnsub` with the topic it returns put back. The branch that calls TopicDelete is not taken; that `replyLeaveUnsub` makes
no such call is read off its definition, not stated here. -/
theorem nonowner_delete_is_unsubscribe (c : Ctx) (a : Actor) (tn : TName) (hard : Bool) (t : Topic)
    (hlive : c.w.live? tn = some t) (hne : t.owner ≠ a.uid) :
    c.opDelTopic a tn hard = (c.replyLeaveUnsub t a).1.putLive (c.replyLeaveUnsub t a).2 := by
  unfold Ctx.opDelTopic
  simp only [hlive]
  have : ¬ (a.uid ≠ "" ∧ t.owner = a.uid) := fun h => hne h.2
  simp only [this, if_false]

/-- {set desc} carrying public data or default access from anybody but the owner is refused and changes nothing -/
theorem nonowner_cannot_edit_description (c : Ctx) (a : Actor) (tn : TName) (o : SetDescOpts) (t : Topic)
    (hatt : c.w.attached a.sid tn = true) (hlive : c.w.live? tn = some t) (hne : t.owner ≠ a.uid)
    (hreq : o.auth ≠ "" ∨ o.anon ≠ "" ∨ o.pub ≠ .absent) :
    c.opSetDesc a tn o = c.emit a.sid (ctrl 403 tn) := by
  unfold Ctx.opSetDesc
  simp only [hatt, Bool.not_true, Bool.false_eq_true, if_false, hlive]
  exact if_pos ⟨by simpa using hne, or_assoc.mpr hreq⟩

end Tinode.Props.C06
