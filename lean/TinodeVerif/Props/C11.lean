import TinodeVerif.Model.Gate
import TinodeVerif.Props.C02
import TinodeVerif.Proofs.Guards
/-!
C11 — sessions can only act within their handshake and authentication state.

`Gate.gate`, `Gate.hello`, `Gate.login` (Model/Gate.lean) transcribe Session.dispatch, Session.hello and
Session.login/onLogin; the authenticator's answer is a parameter (`AuthOutcome`), so the theorems hold for every
authenticator. The clause about the author recorded on a message is `C02.sender_header` (world model).
-/
namespace Tinode.Props.C11
open Tinode.Gate

theorem before_handshake (s : GS) (k : Kind) (h : s.ver = 0) :
    gate s k none = (match k with
      | .hi => .pass s.uid s.lvl
      | .note => .drop
      | .empty => .refuse 400 false
      | _ => .refuse 409 true) := by
  unfold gate resolveAs
  cases k <;> simp [h]

theorem before_login (s : GS) (k : Kind) (hv : s.ver ≠ 0) (hu : s.uid = "") :
    gate s k none = (match k with
      | .hi | .login | .acc => .pass "" s.lvl
      | .note => .drop
      | .empty => .refuse 400 false
      | _ => .refuse 401 true) := by
  unfold gate resolveAs
  cases k <;> simp [hv, hu]

theorem gate_pass (s : GS) (k : Kind) (as : Option (String × Bool × String)) (u : String) (l : Nat)
    (h : gate s k as = .pass u l) : resolveAs s as = .ok (u, l) := by
  unfold gate at h
  split at h
  · -- a failed resolution answers with a refusal, never with `.pass`
    rename_i o ho
    subst h
    unfold resolveAs at ho
    split at ho
    · cases ho
    · simp only [guard_eq_iff, ne_eq, reduceCtorEq, not_false_eq_true, Except.error.injEq, and_false] at ho
  · -- per kind the answer is `.pass u' l'` of the resolved identity behind the kind's guards, or a refusal or a drop: the first `simp`
    -- closes the case (`.empty`) or leaves the guards passed and `u' = u ∧ l' = l`, which the second puts into the goal
    rename_i u' l' ho
    rw [ho]
    cases k <;> simp [guard_eq_iff] at h <;> simp [h]

/-- a request that reaches its handler without on-behalf-of data is executed as the logged-in user at the logged-in level -/
theorem executed_as_logged_in (s : GS) (k : Kind) (u : String) (l : Nat) (h : gate s k none = .pass u l) : u = s.uid ∧ l = s.lvl := by
  cases gate_pass s k none u l h
  exact ⟨rfl, rfl⟩

theorem only_root_on_behalf (s : GS) (k : Kind) (x : String × Bool × String) (h : s.lvl ≠ lvlRoot) :
    gate s k (some x) = .refuse 403 false := by
  unfold gate resolveAs
  obtain ⟨u, v, l⟩ := x
  simp [h]

theorem root_on_behalf (s : GS) (u lv : String) (hr : s.lvl = lvlRoot) (hv : s.ver ≠ 0) (hu : u ≠ "") :
    gate s .pub (some (u, true, lv)) = .pass u (if parseLevel lv = lvlNone then lvlAuth else parseLevel lv) := by
  unfold gate resolveAs
  simp [hr, hv, hu]

theorem login_at_most_once (s : GS) (o : AuthOutcome) (h : s.uid ≠ "") : login s o = (s, 409, false) := by
  unfold login; simp [h]

/-- a login that fails, is refused by the authenticator, belongs to an account which is not in good standing, needs another
round (challenge) or presents a restricted (no-login) token leaves the session exactly as it was -/
theorem failed_login_leaves_unauthenticated (s : GS) (o : AuthOutcome)
    (h : o = .unknownScheme ∨ (∃ c, o = .error c) ∨ (∃ u l nl ch, o = .ok u l false nl ch) ∨ (∃ u l so nl, o = .ok u l so nl true) ∨
         (∃ u l so ch, o = .ok u l so true ch)) :
    (login s o).1 = s := by
  unfold login
  by_cases hs : s.uid ≠ ""
  · rw [if_pos hs]
  · rw [if_neg hs]
    rcases h with rfl | ⟨c, rfl⟩ | ⟨u, l, nl, ch, rfl⟩ | ⟨u, l, so, nl, rfl⟩ | ⟨u, l, so, ch, rfl⟩
    · rfl
    · rfl
    · rfl
    · cases so <;> rfl
    · cases so <;> cases ch <;> rfl

/-- the session becomes authenticated only through a successful, unrestricted, final answer of the authenticator for an
account in good standing, and then as exactly that user and level -/
theorem login_success_only (s : GS) (o : AuthOutcome) (hs : s.uid = "") (h : (login s o).1.uid ≠ "") :
    ∃ u l, o = .ok u l true false false ∧ (login s o).1 = { s with uid := u, lvl := l } ∧ (login s o).2.1 = 200 := by
  unfold login at h ⊢
  rw [if_neg (not_not_intro hs)] at h ⊢
  cases o with
  | unknownScheme => exact absurd hs h
  | error c => exact absurd hs h
  | ok u l so nl ch =>
    -- down the cascade: every answer but the last leaves `s`, which is not authenticated
    cases so
    · exact absurd hs h
    cases ch
    · cases nl
      · exact ⟨u, l, rfl, rfl, rfl⟩
      · exact absurd hs h
    · exact absurd hs h

/-- the answer `login_success_only` arrives at does authenticate a session which was not authenticated -/
theorem login_success (s : GS) (u : String) (l : Nat) (hs : s.uid = "") :
    login s (.ok u l true false false) = ({ s with uid := u, lvl := l }, 200, true) := by
  unfold login; simp [hs]

theorem loginV_complete (s : GS) (o : AuthOutcome) :
    (loginV s o false).1 = (login s o).1 ∧ (loginV s o false).2.1 = (login s o).2.1 ∧ (loginV s o false).2.2.1 = (login s o).2.2 := by
  unfold loginV login
  by_cases hs : s.uid ≠ ""
  · rw [if_pos hs, if_pos hs]; exact ⟨rfl, rfl, rfl⟩
  · rw [if_neg hs, if_neg hs]
    cases o with
    | unknownScheme => exact ⟨rfl, rfl, rfl⟩
    | error c => exact ⟨rfl, rfl, rfl⟩
    | ok u l so nl ch => cases so <;> cases ch <;> cases nl <;> exact ⟨rfl, rfl, rfl⟩

theorem missing_credentials_leave_unauthenticated (s : GS) (o : AuthOutcome) : (loginV s o true).1 = s := by
  unfold loginV
  by_cases hs : s.uid ≠ ""
  · rw [if_pos hs]
  · rw [if_neg hs]
    cases o with
    | unknownScheme => rfl
    | error c => rfl
    | ok u l so nl ch => cases so <;> cases ch <;> rfl

/-- the token handed out with a request for more validation (300) does not say "validated": presenting it goes through the check again -/
theorem token_validated_only_when_complete (s : GS) (o : AuthOutcome) (m : Bool) (h : (loginV s o m).2.2.2 = true) :
    m = false ∧ (loginV s o m).2.1 = 200 := by
  unfold loginV at h ⊢
  by_cases hs : s.uid ≠ ""
  · rw [if_pos hs] at h; cases h
  · rw [if_neg hs] at h ⊢
    cases o with
    | unknownScheme => cases h
    | error c => cases h
    | ok u l so nl ch =>
      -- down the cascade: every answer before the check of `m` carries no token
      cases so
      · cases h
      cases ch
      · cases m
        · cases nl <;> exact ⟨rfl, rfl⟩
        · cases h
      · cases h

theorem cred_missing_iff (v r c : Bool) : credMissing v r c = true ↔ (v = false ∧ r = true ∧ c = false) := by
  cases v <;> cases r <;> cases c <;> simp [credMissing]

/-- the two tokens of a two-step history: the first login lacks the credential (300), the token it got is presented: still 300 -/
example : let s : GS := { ver := 22 }
    let step1 := loginV s (.ok "U1" lvlAuth true false false) (credMissing false true false)
    let step2 := loginV step1.1 (.ok "U1" lvlAuth true false false) (credMissing step1.2.2.2 true false)
    step1.2.1 = 300 ∧ step2.2.1 = 300 ∧ step2.1.uid = "" := by decide

theorem version_immutable (s : GS) (v : String) (h : s.ver ≠ 0) : (hello s v).1 = s := by
  unfold hello
  simp only [h, if_false]
  split <;> rfl

theorem handshake_version_supported (s : GS) (v : String) (h0 : s.ver = 0) (h : (hello s v).1.ver ≠ 0) :
    tooOld (hello s v).1.ver = false ∧ (hello s v).2 = 201 := by
  unfold hello at h ⊢
  simp only [if_pos h0] at h ⊢
  by_cases h1 : parseVersion v = 0
  · rw [if_pos h1] at h; exact absurd h0 h
  rw [if_neg h1] at h ⊢
  by_cases h2 : tooOld (parseVersion v) = true
  · rw [if_pos h2] at h; exact absurd h0 h
  rw [if_neg h2]
  exact ⟨(Bool.not_eq_true _).mp h2, rfl⟩

/-- a client can never choose the author recorded on a message: the server replaces the sender header (world model) -/
theorem sender_is_servers (a : Tinode.World.Actor) (head : List (String × String)) (v : String) :
    ("sender", v) ∈ Tinode.World.pubHead a head ↔ (a.sessUid ≠ a.uid ∧ v = a.sessUid) :=
  C02.sender_header a head v

example : gate { ver := 0x1600, uid := "U1", lvl := 20 } .pub none = .pass "U1" 20 := by decide
example : parseVersion "0.22" = 0x1600 ∧ parseVersion "v0.19.3-rc" = 0x1303 ∧ parseVersion "abc" = 0 := by decide

end Tinode.Props.C11
