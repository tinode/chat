import TinodeVerif.Model.Files
import TinodeVerif.Proofs.Guards
/-!
C16 — out-of-band files are served only to authorised users and kept while referenced.

Over `Files.uploadDecision` / `Files.upload`, `Files.downloadGate` / `Files.download`, `Files.urlTarget`,
`Files.forceAttachment`, `Files.publish`, `Files.avatar`, `Files.deleteMsgs`, `Files.deleteTopic`, `Files.gc`
(Model/Files.lean).
-/
namespace Tinode.Props.C16
open Tinode.Files

theorem refused_upload_no_effect (fs : FS) (r : UpReq) (l : String → Option String) (c : Nat)
    (h : (upload fs r l).2 = .status c) : (upload fs r l).1 = fs := by
  unfold upload at h ⊢
  cases hd : uploadDecision fs r l with
  | refuse code => rfl
  | store u => rw [hd] at h; simp at h

/-- the endpoint decides to store only for POST or PUT, with a valid and readable API key, credentials which authenticate a
user (or none at all as part of an account creation), within the size limit, with the file field present and non-empty -/
theorem store_decision_needs (fs : FS) (r : UpReq) (l : String → Option String) (u : String)
    (h : uploadDecision fs r l = .store u) :
    (r.method = "POST" ∨ r.method = "PUT") ∧ keyOk r.key true false = true ∧ tooLarge fs r.size = false ∧ r.field = "file" ∧ r.size ≠ 0 ∧
    authenticate r.auth true false l = .uid u ∧ (u ≠ "" ∨ r.newacc = true) := by
  unfold uploadDecision at h
  -- not OPTIONS: the checks of the method and of `HEAD` further down say more
  obtain ⟨-, h⟩ := passed h nofun
  obtain ⟨hmeth, h⟩ := passed h nofun
  obtain ⟨hkey, h⟩ := passed h nofun
  split at h
  · cases h
  · cases h
  next v hauth =>
  obtain ⟨hanon, h⟩ := passed h nofun
  obtain ⟨hhead, h⟩ := passed h nofun
  obtain ⟨hbig, h⟩ := passed h nofun
  obtain ⟨hfield, h⟩ := passed h nofun
  obtain ⟨hsize, h⟩ := passed h nofun
  cases h
  -- the body was not too large to be parsed: this is the flag under which the key and the credentials were read
  rw [Bool.not_eq_true] at hbig
  rw [hbig] at hkey hauth hanon
  have hfield : r.field = "file" := Decidable.not_not.mp hfield
  refine ⟨?_, by simpa using hkey, by simpa [hfield] using hbig, hfield, hsize, hauth, ?_⟩
  · exact Decidable.byContradiction fun hn => hmeth ⟨fun h => hn (.inl h), fun h => hn (.inr h), hhead⟩
  · by_cases hu : u = ""
    · exact .inr (by simpa [hu] using hanon)
    · exact .inl hu

/-- a stored upload adds exactly one record: the next name, owned by the authenticated user, with the sniffed (or the client's
allowed) type and the uploaded size, not linked to anything -/
theorem stored_upload_effect (fs : FS) (r : UpReq) (l : String → Option String) (u : String) (h : uploadDecision fs r l = .store u) :
    (upload fs r l).1.files = fs.files ++ [{ name := s!"F{fs.nextF}", owner := u, mime := storedMime r.kind r.size r.ctype, size := r.size }] ∧
    (upload fs r l).2 = .stored s!"F{fs.nextF}" := by
  unfold upload; rw [h]; exact ⟨rfl, rfl⟩

/-- a download reaches the file store only with GET, a valid API key and credentials which authenticate a user (explicit ones
in any of five places, or a live session id) -/
theorem download_needs_credentials (r : DownReq) (l : String → Option String) (h : downloadGate r l = none) :
    r.method = "GET" ∧ keyOk r.key false false = true ∧ ∃ u, u ≠ "" ∧ authenticate r.auth false false l = .uid u := by
  unfold downloadGate at h
  -- not OPTIONS: the checks of the method and of `HEAD` further down say more
  obtain ⟨-, h⟩ := passed h nofun
  obtain ⟨hmeth, h⟩ := passed h nofun
  obtain ⟨hkey, h⟩ := passed h nofun
  split at h
  · cases h
  · cases h
  next u hauth =>
  obtain ⟨hu, h⟩ := passed h nofun
  obtain ⟨hhead, -⟩ := passed h nofun
  exact ⟨Decidable.byContradiction fun hg => hmeth ⟨hg, hhead⟩, by simpa using hkey, u, hu, hauth⟩

/-- A download returns exactly the upload its URL names: the bytes (identified by the record's name) and the stored content
type of a record that exists. -/
theorem download_exact (fs : FS) (r : DownReq) (l : String → Option String) (n mime : String) (att : Bool)
    (h : download fs r l = .file n mime att) :
    downloadGate r l = none ∧ urlTarget r.url = some n ∧ ∃ f ∈ fs.files, f.name = n ∧ f.mime = mime ∧ att = forceAttachment f.mime r.asatt := by
  unfold download at h
  split at h
  · cases h
  next hgate =>
  split at h
  · cases h
  next t hurl =>
  split at h
  · cases h
  next f hfind =>
  cases h
  have hname : f.name = t := by simpa using List.find?_some hfind
  exact ⟨hgate, hname ▸ hurl, f, List.mem_of_find?_eq_some hfind, rfl, rfl, rfl⟩

/-- active content - HTML, XML, text and application types - is always forced to be saved rather than displayed -/
theorem active_content_saved (mime : String) (asatt : Bool)
    (h : mime.startsWith "text/" = true ∨ mime.startsWith "application/" = true ∨ (mime.splitOn "html").length > 1 ∨ (mime.splitOn "xml").length > 1) :
    forceAttachment mime asatt = true := by
  unfold forceAttachment
  rcases h with h | h | h | h <;> simp [h]

theorem asatt_honoured (mime : String) : forceAttachment mime true = true := by unfold forceAttachment; simp

/-- URLs: what the cleaning and splitting makes of the shapes an attacker may try - traversal inside and outside the serve
directory, another directory, a relative name, a trailing slash, an extension, escaped separators -/
theorem url_shapes :
    urlTargetL "/v0/file/s/{F1}".toList = some "F1".toList ∧ urlTargetL "/v0/file/s/../s/{F1}".toList = some "F1".toList ∧
    urlTargetL "/v0/file/s/x/../{F1}".toList = some "F1".toList ∧ urlTargetL "{F1}".toList = some "F1".toList ∧
    urlTargetL "/v0/file/s/{F1id}.exe".toList = some "F1".toList ∧ urlTargetL "/v0/file/s/{F1id}%2F..%2Fetc".toList = some "F1".toList ∧
    urlTargetL "/v0/file/s/{F1}?apikey=x&auth=y".toList = some "F1".toList ∧
    urlTargetL "/v0/file/x/{F1}".toList = none ∧ urlTargetL "/{F1}".toList = none ∧ urlTargetL "../{F1}".toList = none ∧
    urlTargetL "x/{F1}".toList = none ∧ urlTargetL "/v0/file/s/".toList = none ∧ urlTargetL "/v0/file/s/{F1}/..".toList = none ∧
    urlTargetL "/v0/file/s/../../etc/passwd".toList = none ∧ urlTargetL "/v0/file/S/{F1}".toList = none := by
  -- every literal is read as `String.ofList` of its characters (by unification), so that evaluation starts from the lists of
  -- characters and does not decode the literals' UTF-8
  repeat rw [String.toList_ofList]
  decide

theorem gcList_between (lim : Option Nat) (l : List FileRec) :
    (l.filter (·.linked)).Sublist (gcList lim l) ∧ (gcList lim l).Sublist l := by
  induction l generalizing lim with
  | nil => exact ⟨.refl _, .refl _⟩
  | cons g rest ih =>
    unfold gcList
    by_cases hg : g.linked = true
    · rw [if_pos hg, List.filter_cons_of_pos hg]
      exact ⟨(ih lim).1.cons_cons g, (ih lim).2.cons_cons g⟩
    · rw [if_neg hg, List.filter_cons_of_neg hg]
      -- an unlinked upload, by the limit: none - removed; exhausted - kept; `k + 1` left - removed
      split
      · exact ⟨(ih none).1, (ih none).2.cons g⟩
      · exact ⟨(ih _).1.cons g, (ih _).2.cons_cons g⟩
      · exact ⟨(ih _).1, (ih _).2.cons g⟩

theorem gcList_unbounded (l : List FileRec) : gcList none l = l.filter (·.linked) := by
  induction l with
  | nil => rfl
  | cons g rest ih =>
    unfold gcList
    cases h : g.linked <;> simp [h, ih]

theorem gc_between (fs : FS) (due : Bool) (limit : Nat) :
    (fs.files.filter (·.linked)).Sublist (gc fs due limit).files ∧ (gc fs due limit).files.Sublist fs.files := by
  unfold gc
  split
  · exact ⟨List.filter_sublist, .refl _⟩
  · exact gcList_between _ _

theorem gc_keeps_linked (fs : FS) (due : Bool) (limit : Nat) (f : FileRec) (hf : f ∈ fs.files) (hl : f.linked = true) :
    f ∈ (gc fs due limit).files :=
  (gc_between fs due limit).1.subset (List.mem_filter.mpr ⟨hf, hl⟩)

theorem gc_removes_only_unlinked (fs : FS) (due : Bool) (limit : Nat) :
    (gc fs due limit).files.Sublist fs.files ∧ ∀ f ∈ fs.files, f ∉ (gc fs due limit).files → f.linked = false :=
  ⟨(gc_between fs due limit).2, fun f hf hnot => Bool.eq_false_iff.mpr fun hl => hnot (gc_keeps_linked fs due limit f hf hl)⟩

theorem gc_respects_grace (fs : FS) (limit : Nat) : gc fs false limit = fs := by unfold gc; simp

theorem gc_due_unbounded (fs : FS) : (gc fs true 0).files = fs.files.filter (·.linked) := by
  unfold gc; simp [gcList_unbounded]

/-- an upload listed with an accepted publish (all listed uploads exist) is linked to the new message, hence kept -/
theorem published_attachment_linked (fs : FS) (atts : List String) (f : FileRec) (hf : f ∈ fs.files) (ha : f.name ∈ atts)
    (hall : atts.all (fun a => fs.files.any (·.name = a)) = true) :
    ∃ g ∈ (publish fs atts).files, g.name = f.name ∧ g.linked = true := by
  unfold publish
  rw [if_pos hall]
  refine ⟨_, List.mem_map_of_mem hf, ?_⟩
  simp [ha, FileRec.linked]

/-- the avatar listed with a topic update (an existing upload) is linked to the topic, hence kept -/
theorem avatar_linked (fs : FS) (a : String) (rest : List String) (f : FileRec) (hf : f ∈ fs.files) (hn : f.name = a) :
    ∃ g ∈ (avatar fs (a :: rest)).files, g.name = a ∧ g.linked = true := by
  rw [avatar, if_pos (List.any_eq_true.mpr ⟨f, hf, decide_eq_true hn⟩)]
  exact ⟨_, List.mem_map_of_mem hf, hn, by simp [hn, FileRec.linked]⟩

/-- deleting the topic (or hard-deleting messages) only drops links: no upload record is removed by it -/
theorem delete_keeps_records (fs : FS) (lo hi : Nat) :
    (deleteTopic fs).files.map (·.name) = fs.files.map (·.name) ∧ (deleteMsgs fs lo hi).files.map (·.name) = fs.files.map (·.name) := by
  unfold deleteTopic deleteMsgs
  simp [List.map_map, Function.comp_def]

end Tinode.Props.C16
