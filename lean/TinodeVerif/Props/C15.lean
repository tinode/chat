import TinodeVerif.Model.Calls
import TinodeVerif.Proofs.Guards
/-!
C15 — a peer-to-peer call follows one life cycle and ends exactly once.

Over `Calls.CS` (Model/Calls.lean): the call gate of {pub}, the event handler and the two ways a call is ended.
What the event handler can do is listed once, as `Outcome`; the theorems about events are read off that list.
-/
namespace Tinode.Props.C15
open Tinode.Calls

/-- An invitation is refused - one frame, to the inviting session - and leaves no trace when the session is not attached, calling is not configured, or
another call is active. -/
theorem refused_invitation_no_trace (s : CS) (sid uid content : String) (noEcho : Bool)
    (h : s.att.any (·.1 = sid) = false ∨ s.ice = false ∨ s.call.isSome = true) :
    (s.pub sid uid content true noEcho).1 = s ∧ ∃ f, (s.pub sid uid content true noEcho).2 = [(sid, f)] := by
  unfold CS.pub
  let P (r : CS × Frames) : Prop := r.1 = s ∧ ∃ f, r.2 = [(sid, f)]
  refine ite_ind (P := P) (fun _ => ⟨rfl, _, rfl⟩) fun h1 => ?_
  refine ite_ind (P := P) (fun _ => ⟨rfl, _, rfl⟩) fun h2 => ?_
  refine ite_ind (P := P) (fun _ => ⟨rfl, _, rfl⟩) fun h3 => ?_
  -- all three checks passed: none of the three reasons holds
  rcases h with h | h | h
  · simp [h] at h1
  · simp [h] at h2
  · simp [h] at h3

/-- The invitation takes the next number, which becomes the call's id; the inviting session is its only party and its
originator. -/
theorem invitation_starts_call (s : CS) (sid uid content : String) (noEcho : Bool)
    (h1 : s.att.any (·.1 = sid) = true) (h2 : s.ice = true) (h3 : s.call = none) :
    (s.pub sid uid content true noEcho).1.call =
      some { parties := [{ sid := sid, uid := uid, orig := true }], seq := s.lastId + 1, content := content } ∧
    (s.pub sid uid content true noEcho).1.lastId = s.lastId + 1 := by
  unfold CS.pub CS.publish
  simp [h1, h2, h3]

/-- the event comes from one of the two users and names the call in progress: `c`, started by `o` -/
structure Live (s : CS) (uid : String) (seq : Int) (c : Call) (o : Party) : Prop where
  call : s.call = some c
  orig : c.originator = some o
  seq : c.seq = seq.toNat
  user : isParticipant uid = true

/-- What `CS.event` can do: one constructor per kind of event that has an effect, `ignored` for every way of dropping an event
without an answer. Only `accept` and `hangup` leave a state other than `s`, and they tell every attached session (`publish`, `endCall`); `ringing`, the forward of
an `accept` and `relay` send one frame to one session other than `sid`. The constructors carry what the corollaries below read, not every guard `CS.event` passed: `ringing`
and `accept` do not keep `c.parties.length = 1` and `o.sid ≠ sid`, `hangup` none of its two guards, `refused` not the kind of event, and none the early checks of `seq`. -/
inductive Outcome (s : CS) (sid uid ev : String) (seq : Int) (payload : String) : CS × Frames → Prop
  | ignored : Outcome s sid uid ev seq payload (s, [])
  | refused : s.att.any (·.1 = sid) = false → Outcome s sid uid ev seq payload (s, [(sid, s!"ctrl 409 {peerOf uid}")])
  | ringing {c o} : Live s uid seq c o → ev = "ringing" → o.uid ≠ uid →
      Outcome s sid uid ev seq payload (s, [(o.sid, infoFrame o.uid uid c.seq ev "")])
  | accept {c o} : Live s uid seq c o → ev = "accept" → o.uid ≠ uid →
      Outcome s sid uid ev seq payload
        ({ (s.publish o.uid uid "" (replHead c "accepted") c.content).1 with
            call := some { c with parties := c.parties ++ [{ sid := sid, uid := uid, orig := false }], accepted := true } },
          (s.publish o.uid uid "" (replHead c "accepted") c.content).2 ++ [(o.sid, infoFrame o.uid uid c.seq ev "")])
  | relay {c o other} : Live s uid seq c o → ev = "offer" ∨ ev = "answer" ∨ ev = "ice-candidate" → c.parties.length = 2 →
      c.parties.any (·.sid = sid) = true → other ∈ c.parties → other.sid ≠ sid →
      Outcome s sid uid ev seq payload (s, [(other.sid, infoFrame other.uid uid c.seq ev payload)])
  | hangup {c o} : Live s uid seq c o → ev = "hang-up" → Outcome s sid uid ev seq payload (s.endCall c uid uid false)

/-- One walk down the handler: every early exit is `ignored` (or `refused`), and what the guards passed on the way say is
kept for the constructor at the end of the branch. -/
theorem event_outcome (s : CS) (sid uid ev : String) (seq : Int) (payload : String) :
    Outcome s sid uid ev seq payload (s.event sid uid ev seq payload) := by
  unfold CS.event
  refine ite_ind (fun _ => .ignored) fun _ => ?_
  refine ite_ind (fun h => .refused (by simpa using h.1)) fun _ => ?_
  refine ite_ind (fun _ => .ignored) fun hu => ?_
  refine ite_ind (fun _ => .ignored) fun _ => ?_
  cases hc : s.call with
  | none => exact .ignored
  | some c =>
  refine ite_ind (fun _ => .ignored) fun hseq => ?_
  cases ho : c.originator with
  | none => exact .ignored
  | some o =>
  have live : Live s uid seq c o := ⟨hc, ho, by simpa using hseq, (by simpa using hu : _ ∧ s.loaded = true).1⟩
  -- by the event: ringing or accept, media signalling, hang-up; any other is ignored
  refine ite_ind (fun hev => ?_) fun _ => ?_
  · refine ite_ind (fun _ => .ignored) fun _ => ?_
    refine ite_ind (fun _ => .ignored) fun hne => ?_
    refine ite_ind (fun ha => ?_) fun ha => ?_
    · exact .accept live ha fun h => hne (.inr h)
    · exact .ringing live (hev.resolve_right ha) fun h => hne (.inr h)
  refine ite_ind (fun hev => ?_) fun _ => ?_
  · refine ite_ind (fun _ => .ignored) fun hlen => ?_
    refine ite_ind (fun _ => .ignored) fun hin => ?_
    cases hf : c.parties.find? (·.sid ≠ sid) with
    | none => exact .ignored
    | some other =>
      exact .relay live hev (by simpa using hlen) (by simpa using hin) (List.mem_of_find?_eq_some hf)
        (by simpa using List.find?_some hf)
  refine ite_ind (fun hev => ?_) fun _ => .ignored
  refine ite_ind (fun _ => .ignored) fun _ => ?_
  exact ite_ind (fun _ => .ignored) fun _ => .hangup live hev

/-- an event naming a different call, or arriving when no call is active, is ignored -/
theorem stale_event_ignored (s : CS) (sid uid ev : String) (seq : Int) (payload : String)
    (hatt : s.att.any (·.1 = sid) = true)
    (h : s.call = none ∨ ∃ c, s.call = some c ∧ c.seq ≠ seq.toNat) : s.event sid uid ev seq payload = (s, []) := by
  have stale {c o} (l : Live s uid seq c o) : False := by
    rcases h with h | ⟨c', hc, hne⟩
    · cases h ▸ l.call
    · cases hc ▸ l.call; exact hne l.seq
  have out := event_outcome s sid uid ev seq payload
  generalize s.event sid uid ev seq payload = r at out ⊢
  cases out with
  | ignored => rfl
  | refused h => cases hatt ▸ h
  | ringing l | accept l | relay l | hangup l => exact (stale l).elim

/-- ringing and acceptance are taken only from the callee: from any session of the caller they change nothing -/
theorem accept_not_from_caller (s : CS) (sid uid ev : String) (seq : Int) (payload : String) (c : Call) (o : Party)
    (hc : s.call = some c) (ho : c.originator = some o) (hev : ev = "ringing" ∨ ev = "accept") (hu : o.uid = uid) :
    (s.event sid uid ev seq payload).1 = s ∧ ∀ f ∈ (s.event sid uid ev seq payload).2, f.1 = sid := by
  have callee {c' o'} (l : Live s uid seq c' o') (hne : o'.uid ≠ uid) : False := by
    cases hc ▸ l.call; cases ho ▸ l.orig; exact hne hu
  have out := event_outcome s sid uid ev seq payload
  generalize s.event sid uid ev seq payload = r at out ⊢
  cases out with
  | ignored | refused => exact ⟨rfl, by simp⟩
  | ringing l _ hne | accept l _ hne => exact (callee l hne).elim
  | relay _ h => rcases h with rfl | rfl | rfl <;> simp at hev
  | hangup _ h => simp [h] at hev

/-- offers, answers and candidates are relayed only between the two party sessions of a call with two parties: nothing changes, and every frame sent goes to the sender itself
(the 409 to a session which is not attached) or is the relayed one, to the other party's session -/
theorem media_relay (s : CS) (sid uid ev : String) (seq : Int) (payload : String)
    (hev : ev = "offer" ∨ ev = "answer" ∨ ev = "ice-candidate") :
    (s.event sid uid ev seq payload).1 = s ∧
    ∀ f ∈ (s.event sid uid ev seq payload).2, f.1 = sid ∨
      ∃ c other, s.call = some c ∧ c.parties.length = 2 ∧ c.parties.any (·.sid = sid) = true ∧ other ∈ c.parties ∧ other.sid ≠ sid ∧
        f = (other.sid, infoFrame other.uid uid c.seq ev payload) := by
  have out := event_outcome s sid uid ev seq payload
  generalize s.event sid uid ev seq payload = r at out ⊢
  cases out with
  | ignored => exact ⟨rfl, nofun⟩
  | refused => exact ⟨rfl, by simp⟩
  | ringing _ h | accept _ h | hangup _ h => simp [h] at hev
  | relay l _ hlen hin hmem hne =>
    exact ⟨rfl, fun f hf => .inr ⟨_, _, l.call, hlen, hin, hmem, hne, List.mem_singleton.mp hf⟩⟩

/-- a user who is not one of the two participants can neither see nor influence the call -/
theorem third_user_powerless (s : CS) (sid uid ev : String) (seq : Int) (payload : String) (h : isParticipant uid = false) :
    (s.event sid uid ev seq payload).1 = s ∧ ∀ f ∈ (s.event sid uid ev seq payload).2, f.1 = sid := by
  have out := event_outcome s sid uid ev seq payload
  generalize s.event sid uid ev seq payload = r at out ⊢
  cases out with
  | ignored | refused => exact ⟨rfl, by simp⟩
  | ringing l | accept l | relay l | hangup l => cases h ▸ l.user

theorem endCall_fst (s : CS) (c : Call) (from_ sessUid : String) (timeout : Bool) :
    ∃ m, (s.endCall c from_ sessUid timeout).1 = { s with lastId := s.lastId + 1, msgs := s.msgs ++ [m], call := none } ∧
      m.seq = s.lastId + 1 ∧ m.content = c.content ∧
      ∀ kv ∈ replHead c (if from_ ≠ "" ∧ c.parties.length = 2 then "finished"
          else if from_ ≠ "" then (if from_ = (c.originator.map (·.uid)).getD "" then "missed" else "declined")
          else if timeout then "missed" else "disconnected"), kv ∈ m.head := by
  have nosender : ∀ st, ∀ kv ∈ replHead c st, kv.1 ≠ "sender" := by simp [replHead]
  refine ⟨_, rfl, rfl, rfl, fun kv hkv => ?_⟩
  -- `publish` drops a `sender` from the head it is given, adds its own when the session is not the author's, and sorts
  have hf : kv ∈ (replHead c _).filter (·.1 ≠ "sender") := List.mem_filter.mpr ⟨hkv, decide_eq_true (nosender _ kv hkv)⟩
  unfold sortHead
  rw [List.mem_mergeSort]
  split
  · exact List.mem_append_left _ hf
  · exact hf

/-- Ending a call: it is forgotten, exactly one message is appended - a replacement of the invitation (`replace=:<call id>`)
carrying the invitation's content and one of the four closing states. (`endCall` also tells every attached session `hang-up`;
the frames are not part of this statement.) -/
theorem end_call_once (s : CS) (c : Call) (from_ sessUid : String) (timeout : Bool) :
    (s.endCall c from_ sessUid timeout).1.call = none ∧
    ∃ m, (s.endCall c from_ sessUid timeout).1.msgs = s.msgs ++ [m] ∧ m.seq = s.lastId + 1 ∧ m.content = c.content ∧
      ("replace", s!":{c.seq}") ∈ m.head ∧
      (("webrtc", "finished") ∈ m.head ∨ ("webrtc", "missed") ∈ m.head ∨ ("webrtc", "declined") ∈ m.head ∨ ("webrtc", "disconnected") ∈ m.head) := by
  obtain ⟨m, h, hseq, hcontent, hhead⟩ := endCall_fst s c from_ sessUid timeout
  rw [h]
  -- the second and the third entry of `replHead`
  refine ⟨rfl, m, rfl, hseq, hcontent, hhead _ (.tail _ (.head _)), ?_⟩
  have hw := hhead _ (.tail _ (.tail _ (.head _)))
  -- whichever way the choice of the closing state goes, it is one of the four
  repeat' split at hw
  all_goals simp [hw]

/-- how the closing state is chosen: finished after acceptance, missed on the caller's hang-up or on timeout, declined on
the callee's hang-up, disconnected when a party's session leaves -/
theorem closing_state (s : CS) (c : Call) (o : Party) (ho : c.originator = some o) (from_ sessUid : String) (timeout : Bool) :
    let st := if from_ ≠ "" ∧ c.parties.length = 2 then "finished"
              else if from_ ≠ "" then (if from_ = o.uid then "missed" else "declined")
              else if timeout then "missed" else "disconnected"
    ∃ m, (s.endCall c from_ sessUid timeout).1.msgs = s.msgs ++ [m] ∧ ("webrtc", st) ∈ m.head := by
  obtain ⟨m, h, -, -, hhead⟩ := endCall_fst s c from_ sessUid timeout
  rw [h]
  exact ⟨m, rfl, hhead _ (by simp [replHead, ho])⟩

theorem new_call_after_end (s : CS) (c : Call) (from_ sessUid : String) (timeout : Bool) (sid uid content : String)
    (h1 : s.att.any (·.1 = sid) = true) (h2 : s.ice = true) :
    ((s.endCall c from_ sessUid timeout).1.pub sid uid content true false).1.call.isSome = true := by
  obtain ⟨m, h, -⟩ := endCall_fst s c from_ sessUid timeout
  rw [h, (invitation_starts_call { s with lastId := _, msgs := _, call := none } sid uid content false h1 h2 rfl).1]
  rfl

/-! ### the establishment timer: "missed … when the configured timeout expires" -/

/-- the call of `invitation_starts_call` meets `ha`: it has `accepted` at its default, `false` -/
theorem invitation_arms_timer (s : CS) (c : Call) (h : s.call = some c) (ha : c.accepted = false) : s.timerArmed = true := by
  unfold CS.timerArmed; rw [h]; simp [ha]

/-- whatever event arrives other than an acceptance or a hang-up, a call which waits to be accepted keeps waiting under the same
timer -/
theorem only_accept_or_hangup_touch_timer (s : CS) (sid uid ev : String) (seq : Int) (payload : String)
    (h1 : ev ≠ "accept") (h2 : ev ≠ "hang-up") : (s.event sid uid ev seq payload).1 = s := by
  have out := event_outcome s sid uid ev seq payload
  generalize s.event sid uid ev seq payload = r at out ⊢
  cases out with
  | ignored | refused | ringing | relay => rfl
  | accept _ h => exact (h1 h).elim
  | hangup _ h => exact (h2 h).elim

theorem timeout_ends_call (s : CS) : (s.terminate true).1.call = none := by
  unfold CS.terminate
  split
  · assumption
  · split
    · rfl
    · exact (end_call_once ..).1

end Tinode.Props.C15
