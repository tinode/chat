import TinodeVerif.Props.C01
/-!
C02 — each accepted message reaches exactly the attached readers, once, unaltered.

By `C01.accepted_number` the traffic of an accepted publish is the acknowledgement followed by
`(dataRcpt t skip).map (fun x => (x.1, copy))` where `copy` is one fixed frame.
-/
namespace Tinode.Props.C02
open Tinode.World Tinode.Acs

/-- A session gets a copy iff it is attached to the topic, is not the publishing session that asked for no echo, and acts
for a user whose effective mode (requested AND granted) has R. -/
theorem recipient_iff (t : Topic) (skip : Sid) (sid : Sid) (uid : Uid) :
    (sid, uid) ∈ dataRcpt t skip ↔ (sid, uid) ∈ t.sessions ∧ sid ≠ skip ∧ isReader ((t.pud uid).want &&& (t.pud uid).given) = true := by
  unfold dataRcpt Topic.userIsReader eff
  simp only [List.mem_filter, Bool.not_eq_true', Bool.or_eq_false_iff, decide_eq_false_iff_not, Bool.not_eq_false']

/-- the copies delivered by an accepted publish, as (session, frame) pairs -/
def copies (t : Topic) (a : Actor) (tn : TName) (q : Int) (head : List (String × String)) (content : String) (noEcho : Bool) :
    List (Sid × String) :=
  (dataRcpt t (if noEcho then a.sid else "")).map (fun x => (x.1, dataFrame tn a.uid q (pubHead a head) (some content)))

/-- when no session is attached twice, no session appears twice among the copies -/
theorem one_copy_each (t : Topic) (a : Actor) (tn : TName) (q : Int) (head : List (String × String)) (content : String) (noEcho : Bool)
    (hnd : (t.sessions.map (·.1)).Nodup) : ((copies t a tn q head content noEcho).map (·.1)).Nodup := by
  unfold copies dataRcpt
  rw [List.map_map]
  exact (List.Sublist.map _ List.filter_sublist).nodup hnd

/-- every copy is the same frame: the acknowledged number, the true author, the topic name, the content as published and
the headers of `pubHead` -/
theorem copy_is_uniform (t : Topic) (a : Actor) (tn : TName) (q : Int) (head : List (String × String)) (content : String) (noEcho : Bool) :
    ∀ x ∈ copies t a tn q head content noEcho, x.2 = dataFrame tn a.uid q (pubHead a head) (some content) := by
  intro x hx
  unfold copies at hx
  obtain ⟨y, _, rfl⟩ := List.mem_map.mp hx
  rfl

/-- the no-echo publisher is not among the recipients -/
theorem no_echo (t : Topic) (a : Actor) (tn : TName) (q : Int) (head : List (String × String)) (content : String) :
    ∀ x ∈ copies t a tn q head content true, x.1 ≠ a.sid := by
  intro x hx
  unfold copies at hx
  obtain ⟨⟨sid, uid⟩, hy, rfl⟩ := List.mem_map.mp hx
  exact ((recipient_iff t a.sid sid uid).mp hy).2.1

theorem mem_pubHead (a : Actor) (head : List (String × String)) (k v : String) :
    (k, v) ∈ pubHead a head ↔ ((k, v) ∈ head ∧ k ≠ "sender") ∨ (a.sessUid ≠ a.uid ∧ k = "sender" ∧ v = a.sessUid) := by
  unfold pubHead
  split
  · next h => simp [List.mem_mergeSort, h]
  · next h => simp [h]

/-- Headers are delivered as published: every header other than `sender` is in the delivered list iff it was in the request;
the `sender` header is the server's (the session's own user when it publishes on behalf of somebody else, absent otherwise). -/
theorem head_unaltered (a : Actor) (head : List (String × String)) (k v : String) (hk : k ≠ "sender") :
    (k, v) ∈ pubHead a head ↔ (k, v) ∈ head := by
  simp [mem_pubHead, hk]

theorem sender_header (a : Actor) (head : List (String × String)) (v : String) :
    ("sender", v) ∈ pubHead a head ↔ (a.sessUid ≠ a.uid ∧ v = a.sessUid) := by
  simp [mem_pubHead]

/-- The push for a message is addressed exactly to the subscribers whose effective mode has both R and P and who are not
removed. -/
theorem push_addressees (t : Topic) (u : Uid) :
    u ∈ pushRcpt t ↔ ∃ p, (u, p) ∈ t.perUser ∧ isReader (p.want &&& p.given) = true ∧ isPresencer (p.want &&& p.given) = true ∧ p.deleted = false := by
  unfold pushRcpt eff
  simp only [List.mem_map, List.mem_filter, decide_eq_true_eq, Bool.not_eq_true', Prod.exists]
  constructor
  · rintro ⟨u', p, ⟨hm, h⟩, rfl⟩; exact ⟨p, hm, h⟩
  · rintro ⟨p, hm, h⟩; exact ⟨u, p, ⟨hm, h⟩, rfl⟩

/-- the traffic of an accepted publish is the acknowledgement followed by the copies (restating `C01.accepted_number`) -/
theorem accepted_traffic (c : Ctx) (a : Actor) (tn : TName) (content : String) (head : List (String × String)) (noEcho : Bool)
    (t : Topic) (r : TopicRow) (g : C01.Guards c a tn t) (hrow : c.w.row? tn = some r) (hf : c.failK = 0) :
    (c.opPub a tn content head noEcho).frames =
      c.frames ++ [(a.sid, ctrl 202 tn s!" seq={t.lastId + 1}")] ++ copies t a tn (t.lastId + 1) head content noEcho :=
  (C01.accepted_number c a tn content head noEcho t r g hrow hf).1

end Tinode.Props.C02
