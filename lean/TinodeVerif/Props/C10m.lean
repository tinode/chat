import TinodeVerif.Model.TopicMe
import TinodeVerif.Proofs.World
import TinodeVerif.Proofs.Guards
/-!
C10, the part carried by the users' `me` topics: what a topic tells users who are not attached to it, how a `me` topic keeps its
table of contacts (who was last reported online), and what it passes on to the user's sessions.

* `presSubsOfflineMsgs`, `presSingleOfflineMsgs`, `infoSubsOfflineMsgs` (Model/TopicGrp.lean) transcribe presSubsOffline,
  presSingleUserOffline, infoSubsOffline and presOfflineFilter (pres.go:444-513, 599-640, 720-732);
* `procPresReqCore` (Model/TopicMe.lean) transcribes the on/off/?unkn handshake of procPresReq (pres.go:99-228);
* `Ctx.forwardOnMe` the {pres}/{info} branches of broadcastToSessions for a `me` topic;
* `Ctx.presUsersOfInterestCore` presUsersOfInterest (pres.go:256-284).

The theorems state who is addressed and what the table says afterwards, for every topic, population and mode; `Props/C10h.lean`
composes these steps through the hub's queue for two users. That whole executions (several topics, unloads, store failures) end in
agreement is observed on the implementation's own histories by the C10 monitor (`[p2p-converge]`, `[grp-converge]`), with the model
tied to the code by the differential run.
-/
namespace Tinode.Props.C10
open Tinode.World Tinode.Acs

theorem presOfflineFilter_entitled (m : Mode) (what : String) (fIn fOut : Mode) (h : presOfflineFilter m what fIn fOut = true) :
    what = "acs" ∨ what = "gone" ∨ (what = "upd" ∧ isJoiner m = true) ∨ (isJoiner m = true ∧ isPresencer m = true) := by
  unfold presOfflineFilter at h
  by_cases h1 : what = "acs" ∨ what = "gone"
  · exact h1.elim Or.inl (Or.inr ∘ Or.inl)
  · by_cases h2 : what = "upd" ∧ isJoiner m = true
    · exact Or.inr (Or.inr (Or.inl h2))
    · rw [if_neg h1, if_neg h2] at h
      simp only [Bool.and_eq_true] at h
      exact Or.inr (Or.inr (Or.inr h.1.1))

theorem mem_presSubsOfflineMsgs (t : Topic) (what base : String) (actor target : Uid) (sIn sOut : Mode) (tgt : PresMsg) (sk : Sid)
    (off : Bool) (cmd : String) (u : TName) (p : PresMsg) :
    (u, p) ∈ presSubsOfflineMsgs t what base actor target sIn sOut tgt sk off cmd ↔
      ∃ pud, (u, pud) ∈ t.perUser ∧ pud.deleted = false ∧ presOfflineFilter (eff pud) what sIn sOut = true ∧
        p = { tgt with what := what, cmd := cmd, src := t.origFor u, extra := presExtra base actor target u, skipSid := sk,
                       skipTopic := if off then t.name else "" } := by
  unfold presSubsOfflineMsgs
  -- a subscriber yields a message exactly when the guard fails (`Option.ite_none_left_eq_some`)
  simp only [List.mem_filterMap, Prod.exists, Option.ite_none_left_eq_some, Option.some.injEq, Prod.mk.injEq,
    Bool.or_eq_true, Bool.not_eq_true', not_or, Bool.not_eq_true, Bool.not_eq_false]
  constructor
  · rintro ⟨_, pud, hm, ⟨hd, hf⟩, rfl, rfl⟩
    exact ⟨pud, hm, hd, hf, rfl⟩
  · rintro ⟨pud, hm, hd, hf, rfl⟩
    exact ⟨u, pud, hm, ⟨hd, hf⟩, rfl, rfl⟩

/-- A notification sent to the subscribers on their `me` topics is addressed to subscribers only, never to a removed one, and -
apart from permission changes (`acs`), removals (`gone`) and, for anybody who may join, description updates (`upd`) - only to those
whose effective permissions include presence. -/
theorem subs_offline_entitled (t : Topic) (what base : String) (actor target : Uid) (sIn sOut : Mode) (tgt : PresMsg) (sk : Sid)
    (off : Bool) (u : TName) (p : PresMsg)
    (h : (u, p) ∈ presSubsOfflineMsgs t what base actor target sIn sOut tgt sk off) :
    ∃ pud, (u, pud) ∈ t.perUser ∧ pud.deleted = false ∧
      (what = "acs" ∨ what = "gone" ∨ (what = "upd" ∧ isJoiner (eff pud) = true) ∨
        (isJoiner (eff pud) = true ∧ isPresencer (eff pud) = true)) := by
  obtain ⟨pud, hm, hd, hf, _⟩ := (mem_presSubsOfflineMsgs ..).mp h
  exact ⟨pud, hm, hd, presOfflineFilter_entitled _ _ _ _ hf⟩

/-- nothing but a permission change or a removal is ever addressed to a banned subscriber (no J) -/
theorem subs_offline_never_banned (t : Topic) (what base : String) (actor target : Uid) (sIn sOut : Mode) (tgt : PresMsg) (sk : Sid)
    (off : Bool) (u : TName) (p : PresMsg) (hw : what ≠ "acs" ∧ what ≠ "gone")
    (h : (u, p) ∈ presSubsOfflineMsgs t what base actor target sIn sOut tgt sk off) :
    ∃ pud, (u, pud) ∈ t.perUser ∧ pud.deleted = false ∧ isJoiner (eff pud) = true := by
  obtain ⟨pud, hm, hd, hc⟩ := subs_offline_entitled t what base actor target sIn sOut tgt sk off u p h
  refine ⟨pud, hm, hd, ?_⟩
  rcases hc with hc | hc | hc | hc
  · exact absurd hc hw.1
  · exact absurd hc hw.2
  · exact hc.2
  · exact hc.1

/-- an ordinary notification (online, offline, new message, receipt, deletion) never goes to a subscriber without presence -/
theorem subs_offline_needs_P (t : Topic) (what base : String) (actor target : Uid) (sIn sOut : Mode) (tgt : PresMsg) (sk : Sid)
    (off : Bool) (u : TName) (p : PresMsg) (hw : what ≠ "acs" ∧ what ≠ "gone" ∧ what ≠ "upd")
    (h : (u, p) ∈ presSubsOfflineMsgs t what base actor target sIn sOut tgt sk off) :
    ∃ pud, (u, pud) ∈ t.perUser ∧ pud.deleted = false ∧ isPresencer (eff pud) = true := by
  obtain ⟨pud, hm, hd, hc⟩ := subs_offline_entitled t what base actor target sIn sOut tgt sk off u p h
  refine ⟨pud, hm, hd, ?_⟩
  rcases hc with hc | hc | hc | hc
  · exact absurd hc hw.1
  · exact absurd hc hw.2.1
  · exact absurd hc.1 hw.2.2
  · exact hc.2

/-- the notification for one user: to that user only, never for a removed subscription (`ModeInvalid`), and with the same
presence rule -/
theorem single_offline_entitled (t : Topic) (uid : Uid) (mode : Mode) (what base : String) (actor target : Uid) (sk : Sid) (off : Bool)
    (u : TName) (p : PresMsg) (h : (u, p) ∈ presSingleOfflineMsgs t uid mode what base actor target sk off) :
    u = uid ∧ mode ≠ modeInvalid ∧
      (what = "acs" ∨ what = "gone" ∨ (what = "upd" ∧ isJoiner mode = true) ∨ (isJoiner mode = true ∧ isPresencer mode = true)) := by
  unfold presSingleOfflineMsgs at h
  split at h
  · next hc => exact ⟨(Prod.mk.inj (List.mem_singleton.mp h)).1, hc.1, presOfflineFilter_entitled _ _ _ _ hc.2⟩
  · cases h

/-- a note (receipt or typing) relayed as {info} to the users' `me` topics: to subscribers with presence and read permission only -/
theorem info_offline_entitled (t : Topic) (from_ : Uid) (what : String) (seq : Int) (sk : Sid) (u : TName) (p : PresMsg)
    (h : (u, p) ∈ infoSubsOfflineMsgs t from_ what seq sk) :
    ∃ pud, (u, pud) ∈ t.perUser ∧ pud.deleted = false ∧ isPresencer (eff pud) = true ∧ isReader (eff pud) = true := by
  unfold infoSubsOfflineMsgs at h
  simp only [List.mem_filterMap, Prod.exists, Option.ite_none_left_eq_some, Option.some.injEq, Prod.mk.injEq,
    Bool.or_eq_true, Bool.not_eq_true', not_or, Bool.not_eq_true, Bool.not_eq_false] at h
  obtain ⟨_, pud, hm, ⟨⟨hd, hp⟩, hr⟩, rfl, _⟩ := h
  exact ⟨pud, hm, hd, hp, hr⟩

/-! ### what a `me` topic passes on

The fan-out of a notification is a fold over the attached sessions, each step of which leaves the context alone or queues one
frame for the session at hand. -/

theorem forwardOnMe_frames (t : Topic) (p : PresMsg) (what : String) (c : Ctx) :
    Sends (fun s => s ≠ p.skipSid ∧ ∃ u, (s, u) ∈ t.sessions) c (c.forwardOnMe t p what) := by
  unfold Ctx.forwardOnMe
  refine Sends.foldl (fun c ⟨sid, uid⟩ hx => ?_) c
  -- the guards of the step in the order of the definition; `hs` is the first one passed
  exact ite_ind (fun _ => .refl) fun hs =>
    ite_ind (fun _ => .refl) fun _ =>
    ite_ind (fun _ => ite_ind (fun _ => .refl) fun _ => .emit ⟨hs, uid, hx⟩ _) fun _ =>
    ite_ind (fun _ => .refl) fun _ =>
    ite_ind (fun _ => .refl) fun _ =>
    ite_ind (fun _ => .refl) fun _ => .emit ⟨hs, uid, hx⟩ _

/-- whatever reaches a `me` topic is passed on to sessions attached to that topic only, never to the session the news came from -/
theorem forward_on_me_recipients (t : Topic) (p : PresMsg) (what : String) (c : Ctx) (sid : Sid) (f : String)
    (h : (sid, f) ∈ (c.forwardOnMe t p what).frames) :
    (sid, f) ∈ c.frames ∨ (∃ uid, (sid, uid) ∈ t.sessions ∧ sid ≠ p.skipSid) :=
  ((forwardOnMe_frames t p what c).mem h).imp_right fun ⟨hs, u, hu⟩ => ⟨u, hu, hs⟩

/-! ### the table of contacts

`psGet`, `psSet`, `psDel` are the association list of the world model (`alGet`, `alSet`, `alDel`, Model/World.lean) at values
`Bool × Bool`, written out a second time. -/

theorem psGet_psSet_self (l : List (String × Bool × Bool)) (k : String) (v : Bool × Bool) : psGet (psSet l k v) k = some v :=
  alGet_alSet l k v

theorem psGet_psSet_other (l : List (String × Bool × Bool)) (k y : String) (v : Bool × Bool) (hy : y ≠ k) :
    psGet (psSet l k v) y = psGet l y :=
  alGet_alSet_other l k y v hy

theorem psGet_psDel_self (l : List (String × Bool × Bool)) (k : String) : psGet (psDel l k) k = none :=
  alGet_alDel l k

/-- The handshake at a `me` topic for a plain status (`on` or `off`, no command) from a contact it lists: the table takes the
status over if the contact is enabled and says offline otherwise; the news is passed on to the sessions only if the contact is
enabled and the status is new; only "online" is answered, if the sender asked for it, with this user's own status, which asks
for nothing in return. (To chain two steps for an enabled contact, rewrite the first with the `_topic` corollaries below: after this equation the goal keeps `(…).1` unreduced.) -/
theorem procPresReqCore_status (t : Topic) (x what : String) (wantReply ponl pen on : Bool)
    (hw : what = if on then "on" else "off")
    (hme : t.isMe = true) (hact : t.inactive = false) (hc : psGet t.perSubs x = some (ponl, pen)) :
    procPresReqCore t x what "" wantReply =
      ({ t with perSubs := psSet t.perSubs x (pen && on, pen) },
       if pen = true ∧ on ≠ ponl then what else "",
       if (on && wantReply) = true then some { what := "on", src := t.name, wantReply := false } else none) := by
  subst hw
  unfold procPresReqCore
  cases on <;> simp [hact, hme, hc]
  -- the handler says "not forwarded if muted or nothing new", the statement "forwarded if enabled and new"
  all_goals cases pen <;> cases ponl <;> rfl

/-- "online" from an enabled contact: the table says online now; the news is passed on to the sessions only if the contact was
known as offline; when the sender asked for it, the answer is this user's own status, which asks for nothing in return -/
theorem on_from_enabled_contact (t : Topic) (x : String) (wantReply : Bool) (ponl : Bool)
    (hme : t.isMe = true) (hact : t.inactive = false) (hc : psGet t.perSubs x = some (ponl, true)) :
    let r := procPresReqCore t x "on" "" wantReply
    psGet r.1.perSubs x = some (true, true) ∧ r.2.1 = (if ponl then "" else "on") ∧
    r.2.2 = (if wantReply then some { what := "on", src := t.name, wantReply := false } else none) := by
  rw [procPresReqCore_status t x "on" wantReply ponl true true rfl hme hact hc]
  exact ⟨psGet_psSet_self .., by cases ponl <;> rfl, rfl⟩

/-- `on_from_enabled_contact` read at the topic instead of the entry: only the entry of that contact has changed -/
theorem on_from_enabled_topic (t : Topic) (x : String) (wantReply : Bool) (ponl : Bool)
    (hme : t.isMe = true) (hact : t.inactive = false) (hc : psGet t.perSubs x = some (ponl, true)) :
    (procPresReqCore t x "on" "" wantReply).1 = { t with perSubs := psSet t.perSubs x (true, true) } :=
  congrArg Prod.fst (procPresReqCore_status t x "on" wantReply ponl true true rfl hme hact hc)

/-- "offline" from an enabled contact: the table says offline; passed on only if the contact was known as online; never answered -/
theorem off_from_enabled_contact (t : Topic) (x : String) (wantReply : Bool) (ponl : Bool)
    (hme : t.isMe = true) (hact : t.inactive = false) (hc : psGet t.perSubs x = some (ponl, true)) :
    let r := procPresReqCore t x "off" "" wantReply
    psGet r.1.perSubs x = some (false, true) ∧ r.2.1 = (if ponl then "off" else "") ∧ r.2.2 = none := by
  rw [procPresReqCore_status t x "off" wantReply ponl true false rfl hme hact hc]
  exact ⟨psGet_psSet_self .., by cases ponl <;> rfl, rfl⟩

/-- `off_from_enabled_contact` read at the topic: only the entry of that contact has changed -/
theorem off_from_enabled_topic (t : Topic) (x : String) (wantReply : Bool) (ponl : Bool)
    (hme : t.isMe = true) (hact : t.inactive = false) (hc : psGet t.perSubs x = some (ponl, true)) :
    (procPresReqCore t x "off" "" wantReply).1 = { t with perSubs := psSet t.perSubs x (false, true) } :=
  congrArg Prod.fst (procPresReqCore_status t x "off" wantReply ponl true false rfl hme hact hc)

/-- a contact whose notifications are not enabled (no presence permission on this side) stays offline in the table and nothing
about it is passed on -/
theorem muted_contact_is_silent (t : Topic) (x : String) (what : String) (wantReply : Bool) (ponl : Bool)
    (hw : what = "on" ∨ what = "off")
    (hme : t.isMe = true) (hact : t.inactive = false) (hc : psGet t.perSubs x = some (ponl, false)) :
    let r := procPresReqCore t x what "" wantReply
    psGet r.1.perSubs x = some (false, false) ∧ r.2.1 = "" := by
  obtain ⟨on, hon⟩ : ∃ on : Bool, what = if on then "on" else "off" := hw.elim (⟨true, ·⟩) (⟨false, ·⟩)
  rw [procPresReqCore_status t x what wantReply ponl false on hon hme hact hc]
  exact ⟨psGet_psSet_self .., rfl⟩

theorem gone_removes_contact (t : Topic) (x : String) (cmd : String) (wantReply : Bool) (v : Bool × Bool)
    (hme : t.isMe = true) (hact : t.inactive = false) (hc : psGet t.perSubs x = some v) :
    psGet (procPresReqCore t x "gone" cmd wantReply).1.perSubs x = none := by
  unfold procPresReqCore
  obtain ⟨a, b⟩ := v
  simp [hact, hme, hc, psGet_psDel_self]

/-- The two-message exchange between two users who list each other as enabled contacts: the first user's `on` (asking for an
answer) makes the second user's table say online and produces an answer which asks for nothing; that answer makes the first user's
table say online and produces nothing more. Both end up knowing the other is online, and the exchange stops. -/
theorem handshake_completes (tO tX : Topic) (o1 o2 : Bool)
    (hO : tO.isMe = true ∧ tO.inactive = false) (hX : tX.isMe = true ∧ tX.inactive = false)
    (hcO : psGet tO.perSubs tX.name = some (o1, true)) (hcX : psGet tX.perSubs tO.name = some (o2, true)) :
    let r1 := procPresReqCore tO tX.name "on" "" true           -- X announces itself to O
    psGet r1.1.perSubs tX.name = some (true, true) ∧
    r1.2.2 = some { what := "on", src := tO.name, wantReply := false } ∧
    (let r2 := procPresReqCore tX tO.name "on" "" false         -- O's answer reaches X
     psGet r2.1.perSubs tO.name = some (true, true) ∧ r2.2.2 = none) := by
  have h1 := on_from_enabled_contact tO tX.name true o1 hO.1 hO.2 hcO
  have h2 := on_from_enabled_contact tX tO.name false o2 hX.1 hX.2 hcX
  exact ⟨h1.1, h1.2.2, h2.1, h2.2.2⟩

theorem presUsersOfInterestCore_off (c : Ctx) (t : Topic) (what : String) (wr go : Bool) (cmd : String) :
    (c.presUsersOfInterestCore t what wr go cmd).1.off = c.off ++
      (t.perSubs.filter (fun x => (notifyOnOrSkip x.1 what x.2.1).isSome)).map
        (fun x => (x.1, { what := what, cmd := cmd, src := t.name, wantReply := wr })) := by
  unfold Ctx.presUsersOfInterestCore
  simp only
  generalize t.perSubs = l
  induction l generalizing c with
  | nil => simp
  | cons x xs ih =>
    rw [List.foldl_cons, ih, List.filter_cons]
    cases notifyOnOrSkip x.1 what x.2.1 <;> simp [Ctx.offq]

/-- a `me` topic addresses nobody but contacts it may tell (`notifyOnOrSkip`); that each of them is told is the next theorem. (`cmd` has the default value `""`
and stands before `h`: applied positionally without it, `h` has to be about the command `""`.) -/
theorem users_of_interest_addressees (c : Ctx) (t : Topic) (what : String) (wr go : Bool) (rcpt : TName) (p : PresMsg)
    (cmd : String := "")
    (h : (rcpt, p) ∈ (c.presUsersOfInterestCore t what wr go cmd).1.off) :
    (rcpt, p) ∈ c.off ∨ (∃ o e, (rcpt, o, e) ∈ t.perSubs ∧ (notifyOnOrSkip rcpt what o).isSome = true ∧
      p = { what := what, cmd := cmd, src := t.name, wantReply := wr }) := by
  rw [presUsersOfInterestCore_off, List.mem_append, List.mem_map] at h
  refine h.imp_right fun ⟨⟨n, o, e⟩, hx, he⟩ => ?_
  obtain ⟨rfl, rfl⟩ := Prod.mk.inj he
  have := List.mem_filter.mp hx
  exact ⟨o, e, this.1, this.2, rfl⟩

/-- every contact a `me` topic may tell (`notifyOnOrSkip`) is told. (`cmd` comes last and has the default value `""`: left out, the
statement is about the command `""`.) -/
theorem users_of_interest_complete (c : Ctx) (t : Topic) (what : String) (wr go : Bool) (n : String) (o e : Bool)
    (hm : (n, o, e) ∈ t.perSubs) (hn : (notifyOnOrSkip n what o).isSome = true) (cmd : String := "") :
    (n, { what := what, cmd := cmd, src := t.name, wantReply := wr }) ∈ (c.presUsersOfInterestCore t what wr go cmd).1.off := by
  rw [presUsersOfInterestCore_off]
  exact List.mem_append_right _ (List.mem_map.mpr ⟨(n, o, e), List.mem_filter.mpr ⟨hm, hn⟩, rfl⟩)

theorem users_of_interest_mono (c : Ctx) (t : Topic) (what : String) (wr go : Bool) (cmd : String) (m : TName × PresMsg)
    (h : m ∈ c.off) : m ∈ (c.presUsersOfInterestCore t what wr go cmd).1.off := by
  rw [presUsersOfInterestCore_off]
  exact List.mem_append_left _ h

/-! ### the premises are met by concrete states -/

example : psGet (psSet [("U2", false, true)] "U2" (true, true)) "U2" = some (true, true) := psGet_psSet_self _ _ _

example : let t : Topic := { name := "U1", isMe := true, perSubs := [("U2", false, true)] }
    (procPresReqCore t "U2" "on" "" true).2.2 = some { what := "on", src := "U1", wantReply := false } :=
  (on_from_enabled_contact { name := "U1", isMe := true, perSubs := [("U2", false, true)] } "U2" true false rfl rfl rfl).2.2

end Tinode.Props.C10
