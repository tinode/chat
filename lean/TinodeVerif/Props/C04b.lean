import TinodeVerif.Proofs.Ranges
import TinodeVerif.Model.TopicReq
/-!
C04, layers 2-4 — the delete request, the history query and the permission gate over the world model
(`convRanges`, `queryMsgs`, `Ctx.opDelMsg`, `Ctx.getData` in Model/TopicReq.lean; layer 1, `normalize_union`, is in C04.lean).
-/
namespace Tinode.Props.C04
open Tinode.World Tinode.Ranges Tinode.Acs

/-- what a client range `[lo, hi)` asks for: `hi = 0` or `hi = lo` mean the single id `lo` -/
def reqMem (lo hi x : Int) : Prop := if hi = 0 ∨ hi = lo then x = lo else lo ≤ x ∧ x < hi

theorem reqMem_iff (lo hi x : Int) : reqMem lo hi x ↔ lo ≤ x ∧ x < if hi = 0 ∨ hi = lo then lo + 1 else hi := by
  unfold reqMem
  split <;> omega

/-- one accepted range denotes exactly the requested ids clipped to the existing ones -/
theorem conv_one (lastId lo hi : Int) (hok : ¬ (lo > lastId ∨ lo < 0 ∨ hi < 0 ∨ (hi > 0 ∧ lo > hi) ∨ (lo = 0 ∧ hi = 0))) (x : Int) :
    (⟨lo, if hi > lastId then lastId + 1 else if lo = hi ∨ lo + 1 = hi then 0 else hi⟩ : Range).mem x ↔ (reqMem lo hi x ∧ x ≤ lastId) := by
  -- both sides are intervals that start at `lo`: what is left is to compare their upper ends, case by case
  rw [reqMem_iff, Range.mem, upper]
  simp only
  omega

/-- A delete request hides exactly the union of its ranges clipped to existing ids. With `normalize_union` the stored (sorted,
collapsed) list covers the same ids, whatever the order, overlap or adjacency of the listed ranges - provided every converted range is well
formed, which `normalize_union` asks for and which is true of `convRanges` but not stated. -/
theorem conv_exact (lastId : Int) (inp : List (Int × Int)) (rs : List Range) (n : Int) (h : convRanges lastId inp = some (rs, n)) (x : Int) :
    memList rs x ↔ ∃ p ∈ inp, reqMem p.1 p.2 x ∧ x ≤ lastId := by
  induction inp generalizing rs n with
  | nil =>
    cases h
    simp [memList_nil]
  | cons p ps ih =>
    obtain ⟨lo, hi⟩ := p
    rw [convRanges] at h
    split at h
    · cases h
    · next hok =>
      cases hrec : convRanges lastId ps with
      | none => rw [hrec] at h; cases h
      | some q =>
        obtain ⟨rs', n'⟩ := q
        rw [hrec] at h
        cases h
        rw [memList_cons, ih rs' n' hrec, conv_one lastId lo hi hok x]
        simp only [List.mem_cons, exists_eq_or_imp]

/-- a malformed entry (negative, inverted, beyond the last id, 0:0) rejects the whole request -/
theorem conv_rejects (lastId lo hi : Int) (rest : List (Int × Int))
    (h : lo > lastId ∨ lo < 0 ∨ hi < 0 ∨ (hi > 0 ∧ lo > hi) ∨ (lo = 0 ∧ hi = 0)) : convRanges lastId ((lo, hi) :: rest) = none := by
  simp [convRanges, h]

def softDeletedBy (r : TopicRow) (u : Uid) (seq : Int) : Bool :=
  r.dellog.any (fun d => d.forUser = u ∧ u ≠ "" ∧ d.ranges.any (fun rg => decide (rg.mem seq)))

/-- what a query selects before the limit is applied, in stored order -/
def selected (r : TopicRow) (u : Uid) (since before : Int) : List MsgRow :=
  r.msgs.filter (fun m => m.delId = 0 ∧ (if since > 0 then since else 0) ≤ m.seq ∧
    m.seq ≤ (if before > 0 then before - 1 else 2147483647) ∧ !softDeletedBy r u m.seq)

theorem mem_selected {r : TopicRow} {u : Uid} {since before : Int} {m : MsgRow} :
    m ∈ selected r u since before ↔ m ∈ r.msgs ∧ m.delId = 0 ∧ (if since > 0 then since else 0) ≤ m.seq ∧
      m.seq ≤ (if before > 0 then before - 1 else 2147483647) ∧ softDeletedBy r u m.seq = false := by
  simp [selected]

theorem queryMsgs_eq (r : TopicRow) (u : Uid) (since before limit : Int) :
    queryMsgs r u since before limit =
      (selected r u since before).reverse.take (if limit > 0 ∧ limit < 100 then limit else 100).toNat := rfl

/-- Everything a history query returns is a stored message of this topic, not hard-deleted, inside `[since, before)`, and not
soft-deleted by the asking user (another user's soft deletions play no part). -/
theorem query_sound (r : TopicRow) (u : Uid) (since before limit : Int) (m : MsgRow) (h : m ∈ queryMsgs r u since before limit) :
    m ∈ r.msgs ∧ m.delId = 0 ∧ (if since > 0 then since else 0) ≤ m.seq ∧ (before > 0 → m.seq < before) ∧ softDeletedBy r u m.seq = false := by
  rw [queryMsgs_eq] at h
  obtain ⟨hm, h1, h2, h3, h4⟩ := mem_selected.mp (List.mem_reverse.mp (List.mem_of_mem_take h))
  refine ⟨hm, h1, h2, fun hb => ?_, h4⟩
  omega

theorem queryMsgs_length_le (r : TopicRow) (u : Uid) (since before limit : Int) :
    (queryMsgs r u since before limit).length ≤ (if limit > 0 ∧ limit < 100 then limit else 100).toNat := by
  rw [queryMsgs_eq, List.length_take]
  exact Nat.min_le_left ..

theorem query_limit (r : TopicRow) (u : Uid) (since before limit : Int) :
    (queryMsgs r u since before limit).length ≤ 100 ∧ (0 < limit → limit < 100 → (queryMsgs r u since before limit).length ≤ limit.toNat) := by
  have hlen := queryMsgs_length_le r u since before limit
  constructor
  · split at hlen <;> omega
  · intro h1 h2
    rwa [if_pos ⟨h1, h2⟩] at hlen

/-- when the messages a query selects (`selected`, written out in `hfit`) fit under the limit, the answer is all of them -/
theorem query_complete (r : TopicRow) (u : Uid) (since before limit : Int) (m : MsgRow)
    (hm : m ∈ r.msgs) (h1 : m.delId = 0) (h2 : (if since > 0 then since else 0) ≤ m.seq)
    (h3 : m.seq ≤ (if before > 0 then before - 1 else 2147483647)) (h4 : softDeletedBy r u m.seq = false)
    (hfit : (r.msgs.filter (fun m => m.delId = 0 ∧ (if since > 0 then since else 0) ≤ m.seq ∧
        m.seq ≤ (if before > 0 then before - 1 else 2147483647) ∧ !softDeletedBy r u m.seq)).length ≤
        (if limit > 0 ∧ limit < 100 then limit else 100).toNat) :
    m ∈ queryMsgs r u since before limit := by
  rw [queryMsgs_eq, List.take_of_length_le (by rw [List.length_reverse]; exact hfit)]
  exact List.mem_reverse.mpr (mem_selected.mpr ⟨hm, h1, h2, h3, h4⟩)

theorem no_read_no_history (c : Ctx) (t : Topic) (a : Actor) (since before limit : Int) (h : isReader (eff (t.pud a.uid)) = false) :
    c.getData t a since before limit = c.emit a.sid (ctrl 204 t.name " what=data") := by
  unfold Ctx.getData; simp [h]

theorem delete_needs_permission (c : Ctx) (a : Actor) (tn : TName) (rs : List (Int × Int)) (hard : Bool) (t : Topic)
    (hatt : c.w.attached a.sid tn = true) (hlive : c.w.live? tn = some t)
    (hd : isDeleter (eff (t.pud a.uid)) = false) (hr : isReader (eff (t.pud a.uid)) = false) :
    c.opDelMsg a tn rs hard = c.emit a.sid (ctrl 403 tn) := by
  unfold Ctx.opDelMsg
  simp [hatt, hlive, hd, hr]

/-- a request which `convRanges` accepts (the premise of `conv_exact`), and what one of its entries asks for -/
example : convRanges 7 [(7, 8), (2, 0)] = some ([⟨7, 8⟩, ⟨2, 0⟩], 2) := by decide
example : reqMem 2 0 2 ∧ ¬ reqMem 2 0 3 := by unfold reqMem; simp

end Tinode.Props.C04
