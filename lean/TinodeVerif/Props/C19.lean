import TinodeVerif.Proofs.Search
import TinodeVerif.Proofs.Tags
/-!
# C19 — search finds only what the query and the tag rules allow
Model: `Model/Search.lean`; grammar: `Spec/Query.lean`; simulation proof: `Proofs/Search.lean`.
-/
namespace Tinode.Props.C19
open Tinode.Search Tinode.Spec.Query

/-- **The parser implements the documented grammar** — for every query string and every tag-rewriting function
(validators/authenticators): it fails exactly on the malformed queries, and otherwise returns exactly the
required (AND) groups and optional (OR) terms the grammar assigns. -/
theorem parse_eq_grammar (rewrite : List Char → List Char) (query : List Char) :
    match specParse rewrite query with
    | none => ∃ e, parseSearchQuery rewrite query = .error e
    | some r => parseSearchQuery rewrite query = .ok r := by
  have h := sim (trimSpace query) rewrite
  simp only [specParse, parseSearchQuery]
  generalize lexItems _ (trimSpace query) = o at h ⊢
  cases o with
  | none => obtain ⟨e, he⟩ := h; exact ⟨e, by rw [he]⟩
  | some items => obtain ⟨st, hs, ho⟩ := h; simp [hs, ho]

/-- **Malformed queries are rejected, not misread**: whenever the grammar has no reading for the query (an
unterminated quote, two commas in one separator run, a quote glued to a word or to another quoted string), the
parser returns an error. -/
theorem malformed_rejected (rewrite : List Char → List Char) (query : List Char)
    (h : specParse rewrite query = none) : ∃ e, parseSearchQuery rewrite query = .error e := by
  have := parse_eq_grammar rewrite query
  rwa [h] at this

/-- the malformed shapes named by the property are indeed outside the grammar -/
example : specParse id "aa \"bb".toList = none ∧ specParse id "aa,,bb".toList = none ∧
    specParse id "aa , ,bb".toList = none ∧ specParse id "a\"b\"".toList = none ∧
    specParse id "\"a\"b".toList = none ∧ specParse id "\"a\"\"b\"".toList = none := by decide

/-- **Stored tags are normalised**: whatever list a client sends, every tag that `normalizeTags` keeps is the trimmed, lower-cased
form of one of the first `maxTagCount` inputs and is well formed; the result is strictly sorted (so duplicate-free). -/
theorem tags_normal {le : List Char → List Char → Bool} {sortS : List (List Char) → List (List Char)}
    (hss : SortSpec le sortS) (isLetter isDigit : Char → Bool) (trimLower : List Char → List Char)
    (maxTagCount : Nat) (src r : List (List Char))
    (h : normalizeTags isLetter isDigit sortS trimLower maxTagCount src = some r) :
    (∀ x ∈ r, (∃ s ∈ src.take maxTagCount, x = trimLower s) ∧ 2 ≤ x.length ∧ x.length ≤ 96 ∧ x ≠ nullValue ∧
      ∃ c cs, x = c :: cs ∧ (isLetter c = true ∨ isDigit c = true)) ∧
    r.Pairwise (fun a b => le a b = true ∧ a ≠ b) ∧ r.length ≤ maxTagCount := by
  have hsrc : (if src.length > maxTagCount then src.take maxTagCount else src) = src.take maxTagCount := by
    split
    · rfl
    · rw [List.take_of_length_le (by omega)]
  simp only [normalizeTags, hsrc] at h
  generalize hl : sortS ((src.take maxTagCount).map trimLower) = l at h
  have hperm : l.Perm ((src.take maxTagCount).map trimLower) := hl ▸ hss.perm _
  -- `r` is empty (a null marker was met) or what the loop kept
  have hd : r = [] ∨ dedupLoop isLetter isDigit l [] = some r := by
    split at h
    · cases h
    · exact .inr (by simp_all)
    · exact .inl (by simp_all)
  rcases hd with rfl | hd
  · simp
  obtain ⟨hsub, hall, -, hpw⟩ := dedupLoop_spec isLetter isDigit hss.antisymm l [] r (hl ▸ hss.sorted _) hd
  refine ⟨fun x hx => ⟨?_, hall x hx⟩, hpw, ?_⟩
  · obtain ⟨s, hs, rfl⟩ := List.mem_map.mp (hperm.mem_iff.mp (hsub.subset hx))
    exact ⟨s, hs, rfl⟩
  · have := hsub.length_le
    have := hperm.length_eq
    have := List.length_take_le maxTagCount src
    simp only [List.length_map] at *
    omega

/-- **Restricted namespaces are immutable for clients**: `restrictedTagsEqual` — the gate on every client tag
update (topic.go:2999, user.go:73, init_topic.go:605) — accepts exactly when the tags in restricted namespaces are the same
multiset before and after; a client can neither add nor remove one. -/
theorem restricted_ns_immutable {le : List Char → List Char → Bool} {sortS : List (List Char) → List (List Char)}
    (hss : SortSpec le sortS) (isL isN : Char → Bool) (namespaces oldTags newTags : List (List Char)) :
    restrictedEqual isL isN sortS namespaces oldTags newTags = true ↔
      (filterRestricted isL isN namespaces oldTags).Perm (filterRestricted isL isN namespaces newTags) := by
  simp only [restrictedEqual]
  split
  next hlen => simpa using fun hp : List.Perm _ _ => hlen hp.length_eq
  next => simp [hss.sort_eq_iff]

/-! non-vacuity / documented examples (API.md): `aaa bbb, ccc` is `(bbb OR ccc) AND aaa` -/
example : parseSearchQuery id "aaa bbb, ccc".toList = .ok ([["aaa".toList]], ["bbb".toList, "ccc".toList]) := by decide
example : parseSearchQuery id "flowers, travel puppies, kittens".toList =
    .ok ([], ["flowers".toList, "travel".toList, "puppies".toList, "kittens".toList]) := by decide
example : parseSearchQuery id "aa \"b,b\" cc".toList = .ok ([["aa".toList], ["b,b".toList], ["cc".toList]], []) := by decide

end Tinode.Props.C19
