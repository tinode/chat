import TinodeVerif.Model.StoreOps
/-!
C18, the composite operations of store.go: "creating an account with its built-in subscriptions … either takes full effect or
none when any one of its statements fails …, and the failure is reported to the caller instead of being swallowed."

For every position of a single failing adapter call: success is reported exactly when no call failed, and then everything is
there; otherwise nothing is.  When the connection is lost for good at the second call the undoing call fails too: the failure is
still reported, but the account's (topic's) own record stays behind without its subscriptions - the negation is proved with its
witness and recorded as a finding.
-/
namespace Tinode.Props.C18
open Tinode.StoreOps

theorem fails_failAt (p : Plan) (h : p.failAt ≠ 0) : p.fails p.failAt = true := by
  simp [Plan.fails, h]

theorem fails_without_loss (p : Plan) (n : Nat) (hl : p.loss = false) (h : p.fails n = true) : n = p.failAt := by
  simp only [Plan.fails, hl, Bool.false_and, Bool.or_false, Bool.and_eq_true, beq_iff_eq] at h
  exact h.2

/-- What both operations come to, `k` being the number of subscriptions the second call writes: the plan matters only through
which of the calls 1, 2, 3 fail, and the record stays behind exactly when the undoing call fails too. -/
def outcome (p : Plan) (mk share undo : String) (k : Nat) : St × Bool :=
  if p.fails 1 then ({ calls := [mk], n := 1 }, false)
  else if p.fails 2 then ({ calls := [mk, share, undo], n := 3, main := p.fails 3 }, false)
  else ({ calls := [mk, share], n := 2, main := true, subs := k }, true)

theorem usersCreate_eq (p : Plan) : usersCreate p = outcome p "UserCreate" "TopicShare" "UserDelete" 2 := by
  unfold usersCreate St.call outcome
  cases h1 : p.fails 1 <;> cases h2 : p.fails 2 <;> cases h3 : p.fails 3 <;> simp [h1, h2, h3]

theorem topicsCreate_eq (p : Plan) : topicsCreate p = outcome p "TopicCreate" "TopicShare" "TopicDelete" 1 := by
  unfold topicsCreate St.call outcome
  cases h1 : p.fails 1 <;> cases h2 : p.fails 2 <;> cases h3 : p.fails 3 <;> simp [h1, h2, h3]

/-! The three claims, for any `r` that equals an `outcome`: they then apply to `usersCreate p` and to `topicsCreate p` through
`usersCreate_eq` and `topicsCreate_eq`. -/
section
variable {p : Plan} {mk share undo : String} {k : Nat} {r : St × Bool} (e : r = outcome p mk share undo k)
include e

theorem outcome_success (h : r.2 = true) : r.1.main = true ∧ r.1.subs = k := by
  subst e
  revert h
  unfold outcome
  split
  · nofun
  split
  · nofun
  · exact fun _ => ⟨rfl, rfl⟩

theorem outcome_failure (h : p.failAt = 1 ∨ p.failAt = 2) : r.2 = false := by
  subst e
  unfold outcome
  split
  · rfl
  split
  · rfl
  next h1 h2 =>
    -- neither the first nor the second call failed, and one of them is the call the plan names
    have hf := fails_failAt p (by omega)
    rcases h with h | h <;> rw [h] at hf <;> contradiction

/-- while the connection lasts, only the call the plan names fails: a failure of the second call is undone -/
theorem outcome_undone (hl : p.loss = false) (h : r.2 = false) : r.1.main = false ∧ r.1.subs = 0 := by
  subst e
  revert h
  unfold outcome
  split
  · exact fun _ => ⟨rfl, rfl⟩
  split
  next h2 =>
    -- the second call is the one the plan names, so the third - the undoing - does not fail
    refine fun _ => ⟨Bool.eq_false_iff.mpr fun h3 => ?_, rfl⟩
    have := fails_without_loss p 2 hl h2
    have := fails_without_loss p 3 hl h3
    omega
  · nofun

end

/-- success is reported only when the account and both subscriptions are written -/
theorem user_success_is_complete (p : Plan) (h : (usersCreate p).2 = true) :
    (usersCreate p).1.main = true ∧ (usersCreate p).1.subs = 2 := outcome_success (usersCreate_eq p) h

theorem user_failure_reported (p : Plan) (h : p.failAt = 1 ∨ p.failAt = 2) : (usersCreate p).2 = false :=
  outcome_failure (usersCreate_eq p) h

theorem user_single_failure_leaves_nothing (p : Plan) (hl : p.loss = false) (h : (usersCreate p).2 = false) :
    (usersCreate p).1.main = false ∧ (usersCreate p).1.subs = 0 := outcome_undone (usersCreate_eq p) hl h

theorem topic_success_is_complete (p : Plan) (h : (topicsCreate p).2 = true) :
    (topicsCreate p).1.main = true ∧ (topicsCreate p).1.subs = 1 := outcome_success (topicsCreate_eq p) h

theorem topic_failure_reported (p : Plan) (h : p.failAt = 1 ∨ p.failAt = 2) : (topicsCreate p).2 = false :=
  outcome_failure (topicsCreate_eq p) h

theorem topic_single_failure_leaves_nothing (p : Plan) (hl : p.loss = false) (h : (topicsCreate p).2 = false) :
    (topicsCreate p).1.main = false ∧ (topicsCreate p).1.subs = 0 := outcome_undone (topicsCreate_eq p) hl h

/-- **negation** (finding): the connection is lost at the second call - the undoing call fails as well, and the account's
record stays behind without its `me` and `fnd` subscriptions; the failure is reported -/
theorem user_loss_leaves_orphan :
    (usersCreate { failAt := 2, loss := true }).2 = false ∧ (usersCreate { failAt := 2, loss := true }).1.main = true ∧
    (usersCreate { failAt := 2, loss := true }).1.subs = 0 := by decide

theorem topic_loss_leaves_orphan :
    (topicsCreate { failAt := 2, loss := true }).2 = false ∧ (topicsCreate { failAt := 2, loss := true }).1.main = true ∧
    (topicsCreate { failAt := 2, loss := true }).1.subs = 0 := by decide

/-- the premises are met on both sides: a plan on which the operation succeeds, one on which it fails and undoes itself -/
example : (usersCreate {}).2 = true ∧ (usersCreate { failAt := 2 }).2 = false ∧
    (usersCreate { failAt := 2 }).1.calls = ["UserCreate", "TopicShare", "UserDelete"] := by decide

end Tinode.Props.C18
