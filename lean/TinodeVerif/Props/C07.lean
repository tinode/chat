import TinodeVerif.Props.C06
/-!
C07 — permissions change only through authorised requests; bans and limits stick.

Same decision functions as C06 plus the handler entry checks of `Ctx.anotherUserSub` / `Ctx.thisUserSub`. This file has the
clauses about group topics. The rest of the property:

* Props/C07p.lean, Props/C07r.lean (namespace `Tinode.Props.C07` too): the peer-to-peer clause, and a third account under the
  routable name;
* Props/C03y.lean, in the namespace of C03: `Tinode.Props.C03.sys_sub_root_only`, `Tinode.Props.C03.sys_modes_within` (the system
  topic admits only root).

"Self and search topics admit only their own user" and "a grant without J cannot attach" have no theorem: the world stream and the monitor
(rule [me-second-user]) decide them.
-/
namespace Tinode.Props.C07
open Tinode.World Tinode.Acs

/-! ### who may change somebody else's grant -/

/-- a user who is not subscribed, or whose effective mode has none of S, A, O, cannot touch another user's subscription:
403 and nothing changes -/
theorem stranger_cannot_invite (c : Ctx) (t : Topic) (a : Actor) (target : Uid) (mode : String)
    (h : t.pud? a.uid = none ∨ ∃ p, t.pud? a.uid = some p ∧ isSharer (eff p) = false) :
    c.anotherUserSub t a target mode = (c.emit a.sid (ctrl 403 t.name), t, none) := by
  unfold Ctx.anotherUserSub
  rcases h with h | ⟨p, hp, hs⟩
  · simp [h]
  · simp [hp, hs]

/-- a sharer who is not an approver or the owner can only invite with the default access: any explicit mode is refused -/
theorem sharer_cannot_set_mode (owner actor : Uid) (hostMode g : Mode) (hg : g ≠ modeUnset) (ha : isAdmin hostMode = false) :
    inviteRefused owner actor hostMode g = true := by
  unfold inviteRefused; simp [hg, ha]

/-- an accepted request on another user's subscription comes from an approver or the owner, or carries no explicit mode; and a grant with O
comes from the owner -/
theorem grant_change_needs_approver (owner actor : Uid) (hostMode g : Mode) (h : inviteRefused owner actor hostMode g = false) :
    (g = modeUnset ∨ isAdmin hostMode = true) ∧ (isOwner g = true → owner = actor) := by
  unfold inviteRefused at h
  simp only [Bool.or_eq_false_iff, Bool.and_eq_false_iff, decide_eq_false_iff_not, ne_eq, Decidable.not_not, Bool.not_eq_false'] at h
  obtain ⟨h1, h2⟩ := h
  refine ⟨h1, fun ho => ?_⟩
  rcases h2 with h2 | h2
  · rw [ho] at h2; cases h2
  · exact h2

/-- the default invitation gives the topic's default access for authenticated users (owner bit cleared) plus J -/
theorem default_invite_mode (defAuth : Mode) : inviteGiven defAuth modeUnset = (defAuth &&& ~~~modeOwner) ||| modeJoin := by
  unfold inviteGiven; exact if_pos rfl

/-- the record update by which `anotherUserSub` changes a grant leaves the requested mode, the read mark and the private data alone (a fact
about the update `{ ud0 with given := g }`, not about the handler) -/
theorem grant_change_keeps_want (ud0 : PUD) (g : Mode) :
    ({ ud0 with given := g } : PUD).want = ud0.want ∧ ({ ud0 with given := g } : PUD).readId = ud0.readId ∧
    ({ ud0 with given := g } : PUD).priv = ud0.priv := ⟨rfl, rfl, rfl⟩

/-! ### what a user may do to their own modes -/

/-- A user's own request never changes the own grant, except that the holder of an O grant may add what they ask for, and a
group administrator (A granted and requested) may add what they ask for except D; nobody can add O this way. -/
theorem self_grant_change (owner u : Uid) (ud0 : PUD) (w : Mode) (ud : PUD) (m : Mode) (oc : Bool)
    (h : selfModeCheck owner u ud0 w = .ok (ud, m, oc)) :
    ud.given = ud0.given ∨
    (isOwner ud0.given = true ∧ ud.given = ud0.given ||| w) ∨
    (isOwner ud0.given = false ∧ isOwner w = false ∧ isAdmin ud0.given = true ∧ isAdmin w = true ∧
      ud.given = ud0.given ||| (w &&& ~~~modeDelete)) := by
  obtain ⟨_, ⟨_, rfl, _⟩ | ⟨_, hg, _, rfl | ⟨_, rfl⟩⟩ | ⟨_, hg, hw, _, rfl | ⟨ha, ha', rfl⟩⟩⟩ := C06.selfModeCheck_ok h
  · exact .inl rfl
  · exact .inl rfl
  · exact .inr (.inl ⟨hg, rfl⟩)
  · exact .inl rfl
  · exact .inr (.inr ⟨hg, hw, ha, ha', rfl⟩)

/-- an administrator's self-raise never adds D or O -/
theorem admin_self_raise_excludes (g w : Mode) (hw : isOwner w = false) :
    isOwner (g ||| (w &&& ~~~modeDelete)) = isOwner g ∧ isDeleter (g ||| (w &&& ~~~modeDelete)) = isDeleter g := by
  constructor
  · rw [or_of_bit isOwner_bit, isOwner_and, hw, Bool.false_and, Bool.or_false]
  · rw [or_of_bit isDeleter_bit, clear_of_bit isDeleter_bit rfl, Bool.or_false]

/-! ### bans and limits stick -/

/-- unsubscribing and subscribing again restores the previous grant instead of the default -/
theorem resubscribe_restores_grant (defAcc prev : Mode) (h : prev ≠ modeUnset) : newSubGiven defAcc prev = prev := by
  unfold newSubGiven; exact if_neg h

/-- a group never exceeds the configured number of subscribers: a first-time {sub} at the limit is refused (422), nothing
changes -/
theorem sub_limit (c : Ctx) (t : Topic) (a : Actor) (want : String) (priv : PrivArg) (nf : Bool) (rn : String) (m : Mode)
    (hp : (if want = "" then Except.ok modeUnset else unmarshal modeUnset want.toList) = .ok m)
    (hnew : t.pud? a.uid = none) (hfull : t.perUser.length ≥ c.w.maxSubs) :
    ∃ name, c.thisUserSub t a want priv nf rn = (c.emit a.sid (ctrl 422 name), t, none) := by
  unfold Ctx.thisUserSub
  simp only [hp, hnew, hfull, if_true]
  exact ⟨_, rfl⟩

/-- an invitation of a new user at the configured number of subscribers is refused (422), nothing changes -/
theorem invite_limit (c : Ctx) (t : Topic) (a : Actor) (target : Uid) (mode : String) (p : PUD) (m : Mode)
    (hh : t.pud? a.uid = some p) (hs : isSharer (eff p) = true) (hro : t.readOnly = false)
    (hp : (if mode = "" then Except.ok modeUnset else unmarshal modeUnset mode.toList) = .ok m)
    (hok : inviteRefused t.owner a.uid (eff p) m = false)
    (hnew : t.pud? target = none) (hfull : t.perUser.length ≥ c.w.maxSubs) :
    c.anotherUserSub t a target mode = (c.emit a.sid (ctrl 422 t.name), t, none) := by
  unfold Ctx.anotherUserSub
  simp [hh, hs, hro, hp, hok, hnew, hfull]

example : inviteRefused "U1" "U2" 0x20 0x07 = true := by decide   -- a sharer (S) setting an explicit JRW

end Tinode.Props.C07
