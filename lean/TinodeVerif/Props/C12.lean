import TinodeVerif.Proofs.Auth
import TinodeVerif.Proofs.Guards
/-!
# C12 — secrets cannot be forged, outlive their validity, or be guessed by brute force
Model: `Model/Auth.lean`; its byte conversions, its cache and `codeAuth` are used through the lemmas of `Proofs/Auth.lean`.
HMAC-SHA256 / HMAC-MD5 are the parameters `mac` / `mac16`: the theorems reduce every acceptance to "the tag matched" —
unforgeability proper is a computational assumption, not a theorem.
-/
namespace Tinode.Props.C12
open Tinode.Auth

/-- fields of a record fit the token layout -/
def Fits (r : Rec) : Prop := r.uid < 2 ^ 64 ∧ r.expires < 2 ^ 32 ∧ r.level ≤ levelRoot ∧ r.features < 2 ^ 16
instance (r : Rec) : Decidable (Fits r) := by unfold Fits; infer_instance

/-- a token authenticates iff it has at least 50 bytes, bytes 18..50 are the MAC of bytes 0..18 under the server's key,
the level is valid, the serial number is the configured one and it has not expired (with the one-second margin) -/
theorem token_auth_iff (mac : List Nat → List Nat → List Nat) (key : List Nat) (serialCfg : Int) (nowMs : Nat)
    (token : List Nat) (r : Rec) :
    tokenAuth mac key serialCfg nowMs token = .ok r ↔
      (50 ≤ token.length ∧ (token.drop 18).take 32 = mac key (token.take 18) ∧
       le (((token.take 18).drop 12).take 2) ≤ levelRoot ∧
       (le (((token.take 18).drop 14).take 2) : Int) = serialCfg ∧
       nowMs + 1000 ≤ le (((token.take 18).drop 8).take 4) * 1000 ∧
       r = { uid := le ((token.take 18).take 8), level := le (((token.take 18).drop 12).take 2),
             features := le (((token.take 18).drop 16).take 2), expires := le (((token.take 18).drop 8).take 4) }) := by
  unfold tokenAuth dataSize macSize
  simp only [guard_eq_iff, ne_eq, reduceCtorEq, not_false_eq_true, Except.ok.injEq, Decidable.not_not, gt_iff_lt,
    Nat.not_lt, eq_comm (a := r)]

/-- **An accepted token carries a valid tag on its own data** — so any accepted change to the 18 signed bytes means
the sender produced a MAC under the server's key for data the server never signed. -/
theorem token_accept_needs_mac (mac : List Nat → List Nat → List Nat) (key : List Nat) (serialCfg : Int) (nowMs : Nat)
    (token : List Nat) (r : Rec) (h : tokenAuth mac key serialCfg nowMs token = .ok r) :
    (token.drop 18).take 32 = mac key (token.take 18) :=
  ((token_auth_iff mac key serialCfg nowMs token r).mp h).2.1

/-- **No altered signature passes**: if `t'` is accepted and agrees with an issued token `t` on the signed bytes, it
agrees with it on all 50 bytes. -/
theorem token_mutation_refused (mac : List Nat → List Nat → List Nat) (key : List Nat) (serialCfg : Int) (nowMs : Nat)
    (t t' : List Nat) (r r' : Rec)
    (ht : tokenAuth mac key serialCfg nowMs t = .ok r) (ht' : tokenAuth mac key serialCfg nowMs t' = .ok r')
    (hdata : t'.take 18 = t.take 18) : t'.take 50 = t.take 50 ∧ r' = r := by
  have e (l : List Nat) : l.take 50 = l.take 18 ++ (l.drop 18).take 32 := List.take_add (i := 18) (j := 32)
  constructor
  · rw [e t, e t', token_accept_needs_mac _ _ _ _ _ _ ht, token_accept_needs_mac _ _ _ _ _ _ ht', hdata]
  · rw [((token_auth_iff _ _ _ _ _ _).mp ht').2.2.2.2.2, ((token_auth_iff _ _ _ _ _ _).mp ht).2.2.2.2.2, hdata]

theorem token_roundtrip (mac : List Nat → List Nat → List Nat) (key : List Nat) (serialCfg : Int) (nowMs : Nat)
    (r : Rec) (hr : Fits r) (hs : 0 ≤ serialCfg ∧ serialCfg < 65536) (hmac : ∀ d, (mac key d).length = 32)
    (hexp : nowMs + 1000 ≤ r.expires * 1000) :
    tokenAuth mac key serialCfg nowMs (tokenGen mac key serialCfg r) = .ok r := by
  have hser : (serialCfg % 65536).toNat < 2 ^ 16 ∧ ((serialCfg % 65536).toNat : Int) = serialCfg := by omega
  have hd : (encodeData r (serialCfg % 65536).toNat).length = 18 := by simp [encodeData]
  obtain ⟨e1, e2, e3, e4, e5⟩ :=
    decode_encodeData r _ hr.1 hr.2.1 (Nat.lt_of_le_of_lt hr.2.2.1 (by decide)) hser.1 hr.2.2.2
  rw [token_auth_iff, tokenGen, List.take_left' hd, List.drop_left' hd, e1, e2, e3, e4, e5]
  refine ⟨?_, ?_, hr.2.2.1, hser.2, hexp, rfl⟩
  · rw [List.length_append, hd, hmac]; decide
  · rw [List.take_of_length_le (Nat.le_of_eq (hmac _))]

/-- a key is valid iff it decodes to exactly 24 bytes whose first byte is the algorithm version 1 and
whose last 16 bytes are the MAC of the first 8 under the server's salt; the root flag is byte 7. -/
theorem apikey_valid_iff (mac16 : List Nat → List Nat → List Nat) (salt : List Nat) (declenOk : Bool)
    (data : Option (List Nat)) (root : Bool) :
    checkKeyData mac16 salt declenOk data = (true, root) ↔
      declenOk = true ∧ ∃ d, data = some d ∧ d.length = 24 ∧ d.head? = some 1 ∧ d.drop 8 = mac16 salt (d.take 8) ∧
        root = decide ((d.drop 7).head? = some 1) := by
  unfold checkKeyData apikeyLength
  cases data with
  | none => simp
  | some d =>
    simp only [guard_eq_iff, ne_eq, Prod.mk.injEq, Bool.false_eq_true, false_and, not_false_eq_true, Decidable.not_not,
      Bool.not_eq_true', Bool.not_eq_false, true_and, Option.some.injEq, exists_eq_left', eq_comm (a := root)]

/-- guesses against one credential, no new code being generated in between -/
def guesses (maxRetries : Nat) (c : Cache) (cred : List Char) : List (List Char) → List (Except Err Nat) × Cache
  | [] => ([], c)
  | g :: gs =>
    let (r, c') := codeAuth maxRetries c cred g
    let (rs, c'') := guesses maxRetries c' cred gs
    (r :: rs, c'')

theorem guesses_cons (maxRetries : Nat) (c : Cache) (cred g : List Char) (gs : List (List Char)) :
    guesses maxRetries c cred (g :: gs) =
      ((codeAuth maxRetries c cred g).1 :: (guesses maxRetries (codeAuth maxRetries c cred g).2 cred gs).1,
       (guesses maxRetries (codeAuth maxRetries c cred g).2 cred gs).2) := rfl

theorem guesses_locked {maxRetries : Nat} {c : Cache} {cred : List Char} (gs : List (List Char))
    (h : ∀ e ∈ c.get cred, maxRetries ≤ e.attempts) :
    (∀ r ∈ (guesses maxRetries c cred gs).1, r = .error .failed) ∧ (guesses maxRetries c cred gs).2 = c := by
  induction gs with
  | nil => exact ⟨nofun, rfl⟩
  | cons g gs ih =>
    rw [guesses_cons, codeAuth_locked g h]
    exact ⟨List.forall_mem_cons.mpr ⟨rfl, ih.1⟩, ih.2⟩

/-- a code is accepted at most once: after the first success every later attempt fails (the entry is deleted on success) -/
theorem code_once (maxRetries : Nat) (c : Cache) (cred : List Char) (g : List Char) (gs : List (List Char)) (uid : Nat)
    (h : (codeAuth maxRetries c cred g).1 = .ok uid) :
    ∀ r ∈ (guesses maxRetries (codeAuth maxRetries c cred g).2 cred gs).1, r = .error .failed := by
  rw [codeAuth_ok_deletes h]
  exact (guesses_locked gs (by simp [Cache.get_del])).1

/-- after `maxRetries` wrong guesses no guess is accepted any more, the right code included. -/
theorem code_lockout (maxRetries : Nat) (c : Cache) (cred : List Char) (e : Entry) (wrong gs : List (List Char))
    (h : c.get cred = some e) (hw : ∀ g ∈ wrong, g ≠ e.code) (hn : e.attempts + wrong.length ≥ maxRetries) :
    (∀ r ∈ (guesses maxRetries c cred wrong).1, r = .error .failed) ∧
    ∀ r ∈ (guesses maxRetries (guesses maxRetries c cred wrong).2 cred gs).1, r = .error .failed := by
  by_cases hl : maxRetries ≤ e.attempts
  · have hl : ∀ e' ∈ c.get cred, maxRetries ≤ e'.attempts := by simpa [h] using hl
    rw [(guesses_locked wrong hl).2]
    exact ⟨(guesses_locked wrong hl).1, (guesses_locked gs hl).1⟩
  · cases wrong with
    | nil => exact absurd hn hl
    | cons w ws =>
      -- a wrong guess is counted: recurse with one attempt more and one guess fewer
      have ih := code_lockout maxRetries _ cred _ ws gs (Cache.get_put c cred { e with attempts := e.attempts + 1 })
        (fun g hg => hw g (List.mem_cons_of_mem w hg)) (by simp at hn ⊢; omega)
      rw [guesses_cons, codeAuth_wrong h hl (hw w List.mem_cons_self).symm]
      exact ⟨List.forall_mem_cons.mpr ⟨rfl, ih.1⟩, ih.2⟩

theorem wrong_code_never (maxRetries : Nat) (c : Cache) (cred g : List Char)
    (h : ∀ e, c.get cred = some e → e.code ≠ g) : (codeAuth maxRetries c cred g).1 = .error .failed := by
  cases he : c.get cred with
  | none => rw [codeAuth_locked g (by simp [he])]
  | some e =>
    by_cases hl : maxRetries ≤ e.attempts
    · rw [codeAuth_locked g (by simpa [he] using hl)]
    · rw [codeAuth_wrong he hl (h e he)]

/-- the premise of `token_roundtrip` is met -/
example : Fits { uid := 12345, level := 20, features := 1, expires := 2000000000 } := by decide
/-- the premise of `code_once` is met: the right code is accepted -/
example : (codeAuth 3 [("email:a".toList, { code := "123456".toList, attempts := 0, uid := 7 })] "email:a".toList
    "123456".toList).1 = .ok 7 := by
  -- the literals are read as `String.ofList` of their characters, so that evaluation does not decode their UTF-8
  repeat rw [String.toList_ofList]
  decide

end Tinode.Props.C12
