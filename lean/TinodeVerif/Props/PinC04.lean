import TinodeVerif.Gen.AdapterPin
import TinodeVerif.Props.Pin
/-! C04: the adapter functions its store behaviour rests on are the ones which were transcribed and reviewed (see Props/Pin.lean). -/
namespace Tinode.Props.Pin
open Tinode.AdapterPin

theorem C04_store_functions_as_reviewed : pinsFor Tinode.Gen.AdapterPin.pins "C04" = pinsFor expected "C04" := by rfl

end Tinode.Props.Pin
