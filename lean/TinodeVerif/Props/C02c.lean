import TinodeVerif.Model.TopicChan
import TinodeVerif.Proofs.World
import TinodeVerif.Proofs.Modes
/-!
C02 / C09 / C03, the channel clauses (everything here is in the namespace `Tinode.Props.C02`, whichever property it is registered
for: `fanoutInfoC_eq`, `no_info_to_channel_readers` for C09, `reader_cannot_publish` for C03): on a channel-enabled topic

* a {data} message reaches exactly the attached sessions of users with read permission and the sessions attached as channel
  readers, once each, never the no-echo publisher;
* a relayed note never reaches a session attached as a channel reader;
* the push is addressed individually to the subscribers with read and presence, never to a channel reader (they are
  reached through the channel's broadcast address, which `deliverPubC` always names);
* `chanWant`, through which an explicit mode asked for by a channel reader passes, stays within join/read/presence and keeps join and read (no theorem
  ties the reader's handlers to it; `setSubOfflineReader`, the {set sub} of a session which is not attached, stores the mode as asked);
* a channel reader's publish is refused.

That the copy for a reader's session carries the `chn` spelling and no author is a rendering rule of the driver
(`Driver/World.lean: chanFor`), tied to the code by the differential run and checked on the implementation's own frames by the
C02 monitor.
-/
namespace Tinode.Props.C02
open Tinode.World Tinode.Acs

/-- the sessions that receive a {data} message on a channel-enabled topic -/
def dataRcptC (t : Topic) (skipSid : Sid) : List (Sid × Uid) :=
  t.sessions.filter (fun (sid, uid) => !(decide (sid = skipSid) || (!t.userIsReader uid && !t.isChanSess sid)))

theorem fanoutDataC_eq (c : Ctx) (t : Topic) (skipSid : Sid) (f : String) :
    c.fanoutDataC t skipSid f = { c with frames := c.frames ++ (dataRcptC t skipSid).map (fun x => (x.1, f)) } :=
  foldl_emit t.sessions (·.1) f
    (fun c ⟨sid, uid⟩ => by
      by_cases h1 : sid = skipSid <;> cases h2 : t.userIsReader uid <;> cases h3 : t.isChanSess sid <;> simp [h1, h2, h3]) c

/-- A session gets a copy iff it is attached, is not the no-echo publisher, and either acts for a user with read permission or is
attached as a channel reader. (The mode tested is `eff (t.pud uid)`, written out.) -/
theorem chan_recipient_iff (t : Topic) (skip : Sid) (sid : Sid) (uid : Uid) :
    (sid, uid) ∈ dataRcptC t skip ↔
      (sid, uid) ∈ t.sessions ∧ sid ≠ skip ∧ (isReader ((t.pud uid).want &&& (t.pud uid).given) = true ∨ t.isChanSess sid = true) := by
  unfold dataRcptC Topic.userIsReader eff
  simp only [List.mem_filter, Bool.not_eq_true', Bool.or_eq_false_iff, decide_eq_false_iff_not, Bool.and_eq_false_iff,
    Bool.not_eq_false']

theorem chan_one_copy_each (t : Topic) (skip : Sid) (hnd : (t.sessions.map (·.1)).Nodup) : ((dataRcptC t skip).map (·.1)).Nodup := by
  unfold dataRcptC
  exact (List.Sublist.map _ List.filter_sublist).nodup hnd

/-- the push of a message on a channel: individually to the subscribers with R and P who are not channel readers -/
theorem chan_push_addressees (t : Topic) (u : Uid) :
    u ∈ pushRcptC t ↔ ∃ p, (u, p) ∈ t.perUser ∧ isReader (p.want &&& p.given) = true ∧ isPresencer (p.want &&& p.given) = true ∧
      p.deleted = false ∧ p.isChan = false := by
  unfold pushRcptC eff
  simp only [List.mem_map, List.mem_filter, decide_eq_true_eq, Bool.not_eq_true', Prod.exists]
  constructor
  · rintro ⟨u', p, ⟨hm, h⟩, rfl⟩; exact ⟨p, hm, h⟩
  · rintro ⟨p, hm, h⟩; exact ⟨u, p, ⟨hm, h⟩, rfl⟩

/-- a channel reader is never pushed individually -/
theorem reader_not_pushed (t : Topic) (u : Uid) (hu : ∀ p, (u, p) ∈ t.perUser → p.isChan = true) : u ∉ pushRcptC t := by
  intro h
  obtain ⟨p, hm, _, _, _, hc⟩ := (chan_push_addressees t u).mp h
  rw [hu p hm] at hc; cases hc

/-- the sessions that are sent a relayed note on a channel-enabled topic: those of `C09.infoRcpt` which are not attached as channel
readers -/
def infoRcptC (t : Topic) (skipSid : Sid) (sender : Uid) (what : String) : List (Sid × Uid) :=
  t.sessions.filter (fun (sid, uid) =>
    !(decide (sid = skipSid) || (t.isChanSess sid || !t.userIsReader uid) || (decide (what = "kp") && decide (sender = uid))))

theorem fanoutInfoC_eq (c : Ctx) (t : Topic) (skipSid : Sid) (sender : Uid) (what f : String) :
    c.fanoutInfoC t skipSid sender what f = { c with frames := c.frames ++ (infoRcptC t skipSid sender what).map (fun x => (x.1, f)) } :=
  foldl_emit t.sessions (·.1) f
    (fun c ⟨sid, uid⟩ => by
      by_cases h1 : sid = skipSid <;> cases h2 : t.isChanSess sid <;> cases h3 : t.userIsReader uid <;> by_cases h4 : what = "kp" <;>
        by_cases h5 : sender = uid <;> simp [h1, h2, h3, h4, h5]) c

theorem no_info_to_channel_readers (t : Topic) (skip : Sid) (sender : Uid) (what : String) (sid : Sid) (uid : Uid)
    (h : (sid, uid) ∈ infoRcptC t skip sender what) : t.isChanSess sid = false := by
  unfold infoRcptC at h
  simp only [List.mem_filter, Bool.not_eq_true', Bool.or_eq_false_iff] at h
  exact h.2.1.2.1

/-- whatever is asked for, a channel reader's requested mode has J and R -/
theorem chan_want_join_read (w old : Mode) (hw : w ≠ modeUnset) : isJoiner (chanWant w old) = true ∧ isReader (chanWant w old) = true := by
  unfold chanWant
  rw [if_pos hw, or_of_bit isJoiner_bit, or_of_bit isReader_bit, or_of_bit isReader_bit]
  exact ⟨Bool.or_true _, by rw [show isReader modeRead = true from rfl, Bool.or_true, Bool.true_or]⟩

/-- whatever is asked for, a channel reader's requested mode has nothing beyond join, read and presence -/
theorem chan_want_within (w old : Mode) (hw : w ≠ modeUnset) : chanWant w old &&& modeCChnReader = chanWant w old := by
  unfold chanWant
  rw [if_pos hw]
  exact or_within (or_within (mask_within w _) (by decide)) (by decide)

/-- the two ends: a reader who asks for everything, a reader who asks for nothing -/
example : chanWant modeCFull modeCChnReader = modeCChnReader ∧ chanWant modeNone modeCChnReader = modeJoin ||| modeRead := by
  constructor <;> decide

/-- a channel reader cannot publish: the reader's grant is join/read/presence, whatever is requested -/
theorem reader_cannot_publish (c : Ctx) (a : Actor) (tn : TName) (content : String) (head : List (String × String)) (noEcho : Bool)
    (t : Topic) (hatt : c.w.attached a.sid tn = true) (hl : c.w.live? tn = some t) (hi : t.inactive = false) (hro : t.readOnly = false)
    (hg : (t.pud a.uid).given = modeCChnReader) :
    c.opPubC a tn content head noEcho = c.emit a.sid (ctrl 403 tn) := by
  have hw : isWriter (eff (t.pud a.uid)) = false := by
    unfold eff; rw [isWriter_and, hg]
    have : isWriter modeCChnReader = false := by decide
    rw [this, Bool.and_false]
  unfold Ctx.opPubC
  simp [hatt, hl, hi, hro, hw]

/-- `bit_test` for a mask that is given as equal to `1 <<< k`. The bounds `hk`, `hne` play no part: `bit_test` holds for every `k`. -/
private theorem bit (m : Mode) (k : Nat) (hk : k < 32) (b : Mode) (hb : b = 1#32 <<< k) (hne : b ≠ 0) :
    decide (m &&& b ≠ 0) = m.getLsbD k := hb ▸ bit_test m k

end Tinode.Props.C02
