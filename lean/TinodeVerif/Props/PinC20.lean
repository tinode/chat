import TinodeVerif.Gen.AdapterPin
import TinodeVerif.Props.Pin
/-! C20: the adapter functions its store behaviour rests on are the ones which were transcribed and reviewed (see Props/Pin.lean). -/
namespace Tinode.Props.Pin
open Tinode.AdapterPin

theorem C20_store_functions_as_reviewed : pinsFor Tinode.Gen.AdapterPin.pins "C20" = pinsFor expected "C20" := by rfl

end Tinode.Props.Pin
