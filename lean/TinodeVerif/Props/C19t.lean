import TinodeVerif.Model.TopicTags
/-!
C19 at the handler: the tags of a group topic are read and written by its owner only, and a {set tags} which would add or remove a
tag of an immutable namespace is refused without any effect (the tag functions themselves are the subject of `Props/C19.lean`).
-/
namespace Tinode.Props.C19
open Tinode.World

theorem settags_nonowner_refused (c : Ctx) (a : Actor) (tn : TName) (src : List String) (t : Topic)
    (hatt : c.w.attached a.sid tn = true) (hl : c.w.live? tn = some t) (ho : t.owner ≠ a.uid) :
    c.opSetTags a tn src false = c.emit a.sid (ctrl 403 tn) := by
  unfold Ctx.opSetTags
  simp [hatt, hl, ho]

theorem gettags_nonowner_refused (c : Ctx) (a : Actor) (tn : TName) (t : Topic)
    (hatt : c.w.attached a.sid tn = true) (hl : c.w.live? tn = some t) (ho : t.owner ≠ a.uid) :
    c.opGetTags a tn false = c.emit a.sid (ctrl 403 tn) := by
  unfold Ctx.opGetTags
  simp [hatt, hl, ho]

/-- refused even when the owner asks (anybody else is refused by `settags_nonowner_refused`) -/
theorem settags_immutable_refused (c : Ctx) (a : Actor) (tn : TName) (src : List String) (t : Topic) (tags : List String)
    (hatt : c.w.attached a.sid tn = true) (hl : c.w.live? tn = some t) (ho : t.owner = a.uid)
    (hn : normTags src = some tags) (hi : immutableSame t.tags tags = false) :
    c.opSetTags a tn src false = c.emit a.sid (ctrl 403 tn) := by
  unfold Ctx.opSetTags
  simp [hatt, hl, ho, hn, hi]

theorem settags_needs_attachment (c : Ctx) (a : Actor) (tn : TName) (src : List String) (p2p : Bool)
    (hatt : c.w.attached a.sid tn = false) : c.opSetTags a tn src p2p = c.emit a.sid (ctrl 403 tn) := by
  unfold Ctx.opSetTags
  simp [hatt]

theorem new_topic_immutable_refused (src : List String) (tags : List String) (hn : normTags src = some tags) (hne : tags ≠ [])
    (hi : immutableSame tags [] = false) : newTopicTags src = .error () := by
  unfold newTopicTags
  have : tags.isEmpty = false := by cases tags <;> simp_all
  simp [hn, hi, this]

end Tinode.Props.C19
