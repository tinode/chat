import TinodeVerif.Proofs.Uid
/-!
# C20 — identifiers and topic names mean the same in every encoding
Model: `Model/Uid.lean`. Ids are naturals below 2^64.
-/
namespace Tinode.Props.C20
open Tinode.Uid

theorem uid_b64_roundtrip (u : Nat) (hu : u < 2 ^ 64) (h0 : u ≠ 0) : parseUid (toText u) = u := by
  rw [toText, if_neg h0, parseUid_encodeB64 _ (bytesLE_length u) (bytesLE_lt u), fromLE_bytesLE u hu]

theorem uid_zero_text : toText 0 = [] ∧ parseUid [] = 0 := by decide

/-- **No other text decodes to an id**: if a string parses to a non-zero id then it *is* the
canonical text of that id (with the strict decoder). -/
theorem uid_decode_canonical (s : List Char) (h : parseUid s ≠ 0) : s = toText (parseUid s) := by
  obtain ⟨bs, hl, hb, rfl⟩ := parseUid_ne_zero s h
  rw [parseUid_encodeB64 bs hl hb] at h ⊢
  rw [toText, if_neg h, bytesLE_fromLE bs hl hb]

theorem user_id_roundtrip (u : Nat) (hu : u < 2 ^ 64) (h0 : u ≠ 0) : parseUserId (userId u) = u := by
  -- the text of `u ≠ 0` is `usr` followed by the id's text; the parser finds the prefix and drops it
  rw [userId, prefixId, if_neg h0, parseUserId, if_pos (by rfl)]
  exact uid_b64_roundtrip u hu h0

theorem chn_grp_inverse (body : List Char) :
    chnToGrp (grpToChn (['g', 'r', 'p'] ++ body)) = ['g', 'r', 'p'] ++ body ∧
    grpToChn (chnToGrp (['c', 'h', 'n'] ++ body)) = ['c', 'h', 'n'] ++ body ∧
    grpToChn (['c', 'h', 'n'] ++ body) = ['c', 'h', 'n'] ++ body ∧
    chnToGrp (['g', 'r', 'p'] ++ body) = ['g', 'r', 'p'] ++ body := by
  simp [grpToChn, chnToGrp, List.isPrefixOf]

theorem p2p_sym (a b : Nat) : p2pName a b = p2pName b a := by
  unfold p2pName
  by_cases ha : a = 0 <;> by_cases hb : b = 0 <;> simp [ha, hb]
  rcases Nat.lt_trichotomy a b with h | h | h
  · simp [h, Nat.lt_asymm h]
  · subst h; simp
  · simp [h, Nat.lt_asymm h]

theorem p2p_parse (a b : Nat) (ha : a < 2 ^ 64) (hb : b < 2 ^ 64) (ha0 : a ≠ 0) (hb0 : b ≠ 0) (hab : a ≠ b) :
    parseP2P (p2pName a b) = some (min a b, max a b) := by
  rw [p2pName_eq a b ha0 hb0 hab, parseP2P_encodeB64 _ _ (by omega) (by omega)]

theorem p2p_name_ne_nil (a b : Nat) (ha0 : a ≠ 0) (hb0 : b ≠ 0) (hab : a ≠ b) : p2pName a b ≠ [] := by
  simp [p2pName_eq a b ha0 hb0 hab]

theorem p2p_inj (a b c d : Nat) (ha : a < 2 ^ 64) (hb : b < 2 ^ 64) (hc : c < 2 ^ 64) (hd : d < 2 ^ 64)
    (ha0 : a ≠ 0) (hb0 : b ≠ 0) (hab : a ≠ b) (hc0 : c ≠ 0) (hd0 : d ≠ 0) (hcd : c ≠ d)
    (h : p2pName a b = p2pName c d) : (a = c ∧ b = d) ∨ (a = d ∧ b = c) := by
  have h1 := p2p_parse a b ha hb ha0 hb0 hab
  have h2 := p2p_parse c d hc hd hc0 hd0 hcd
  rw [h, h2] at h1
  simp at h1
  omega

/-- **each participant sees the other's id** -/
theorem p2p_name_for_user (a b : Nat) (ha : a < 2 ^ 64) (hb : b < 2 ^ 64) (ha0 : a ≠ 0) (hb0 : b ≠ 0) (hab : a ≠ b) :
    p2pNameForUser a (p2pName a b) = some (userId b) ∧ p2pNameForUser b (p2pName a b) = some (userId a) := by
  unfold p2pNameForUser
  rw [p2p_parse a b ha hb ha0 hb0 hab]
  rcases Nat.lt_or_gt_of_ne hab with h | h
  · simp [Nat.min_eq_left (Nat.le_of_lt h), Nat.max_eq_right (Nat.le_of_lt h), Ne.symm hab]
  · simp [Nat.min_eq_right (Nat.le_of_lt h), Nat.max_eq_left (Nat.le_of_lt h), hab]

/-- **XTEA decrypt ∘ encrypt = id** for every key schedule, every block, every number of rounds. -/
theorem xtea_roundtrip (tab : Nat → W) (n : Nat) (v : W × W) :
    decrypt tab n (encrypt tab n v) = v ∧ encrypt tab n (decrypt tab n v) = v :=
  ⟨decrypt_encrypt tab n v, encrypt_decrypt tab n v⟩

/-- **database form round trip.** Every id except the single value `encrypt(0)` (which the id
generator never issues: it encrypts non-zero snowflake numbers) survives id → database integer → id. -/
theorem uid_db_roundtrip (tab : Nat → W) (u : Nat) (hu : u < 2 ^ 64) (hx : u ≠ encodeInt64 tab 0) :
    storeEncodeUid tab (storeDecodeUid tab u) = u :=
  zero_guard_inverse (encodeInt64 tab) (decodeUid tab) u (encodeInt64_decodeUid tab u hu) hx

theorem db_uid_roundtrip (tab : Nat → W) (v : Nat) (hv : v < 2 ^ 64) (hx : v ≠ decodeUid tab 0) :
    storeDecodeUid tab (storeEncodeUid tab v) = v :=
  zero_guard_inverse (decodeUid tab) (encodeInt64 tab) v (decodeUid_encodeInt64 tab v hv) hx

/-- **base32 round trip** (file names) -/
theorem uid_b32_roundtrip (u : Nat) (hu : u < 2 ^ 64) : parseUid32 (toText32 u) = some u := by
  obtain ⟨hq, hd⟩ := dec32x13_enc32x8 (bytesLE u) (bytesLE_length u) (bytesLE_lt u)
  unfold parseUid32 toText32
  rw [if_neg (by simp [bytesLE, enc32x8]), List.map_map,
    mapM_map_of_leftInverse (g := Char.toLower ∘ char32) fun q hq' => idx32_toLower_char32 q (hq q hq')]
  simp only [hd, Option.map_some, fromLE_bytesLE u hu]

example : toText 1 = "AQAAAAAAAAA".toList := by decide
example : parseUid "AQAAAAAAAAA".toList = 1 := by decide
example : parseUid "AQAAAAAAAAB".toList = 0 := by decide   -- non-canonical trailing bits are refused

end Tinode.Props.C20
