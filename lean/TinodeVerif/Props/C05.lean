import TinodeVerif.Proofs.Modes
/-!
# C05 — access modes obey one consistent algebra in every representation

Lemmas on the model are in `Proofs/Acs.lean` and `Proofs/Modes.lean`. Model:
`Model/Acs.lean` (types.go:524-835, topic.go:3557-3573, topic_proxy.go:288-310).
-/
namespace Tinode.Props.C05
open Tinode.Acs

/-- A permission set: only the eight bits J R W P A S D O. This is "within the mask `c`" of Proofs/Acs.lean (`· &&& c = ·`) at
`c = modeBitmask`: `mask_within`, `and_within`, `or_within` and the lemmas about mode strings there, which take it spelled out, apply
to it as they stand. -/
def Valid (m : Mode) : Prop := m &&& modeBitmask = m
instance (m : Mode) : Decidable (Valid m) := by unfold Valid; infer_instance

def alphabet : List Char :=
  ['J','R','W','P','A','S','D','O','N','j','r','w','p','a','s','d','o','n']

/-- **Round trip.** Every permission set has a canonical text which parses back to the same
set whatever the target held before; the empty set is written `N`. -/
theorem marshal_parse (m t : Mode) (hm : Valid m) :
    ∃ s, marshal m = .ok s ∧ unmarshal t s = .ok m ∧ (m = 0 → s = ['N']) := by
  by_cases h0 : m = 0
  · subst h0
    exact ⟨['N'], rfl, unmarshal_N t, fun _ => rfl⟩
  · exact ⟨letters m, marshal_masked m hm h0, unmarshal_letters t m hm h0, fun h => absurd h h0⟩

def lower (c : Char) : Char :=
  if c = 'J' then 'j' else if c = 'R' then 'r' else if c = 'W' then 'w' else if c = 'P' then 'p'
  else if c = 'A' then 'a' else if c = 'S' then 's' else if c = 'D' then 'd' else if c = 'O' then 'o'
  else if c = 'N' then 'n' else c

theorem lower_spec (c : Char) :
    letterBit (lower c) = letterBit c ∧ ((lower c = 'N' ∨ lower c = 'n') ↔ (c = 'N' ∨ c = 'n')) := by
  by_cases h : c ∈ 'N' :: letterTable
  · revert c
    decide +kernel
  · have : lower c = c := by
      simp only [letterTable, List.mem_cons, List.not_mem_nil, or_false, not_or] at h
      simp [lower, h]
    rw [this]
    exact ⟨rfl, Iff.rfl⟩

theorem parseLoop_lower (s : List Char) (acc : Mode) :
    parseLoop (s.map lower) acc = parseLoop s acc := by
  induction s generalizing acc with
  | nil => rfl
  | cons c cs ih =>
    have ⟨hb, hn⟩ := lower_spec c
    simp only [List.map_cons, parseLoop, hb]
    cases letterBit c with
    | some b => exact ih _
    | none =>
      have : (List.map lower cs ≠ []) ↔ (cs ≠ []) := by cases cs <;> simp
      simp only [hn, this]

theorem parse_case_insensitive (s : List Char) : parseAcs (s.map lower) = parseAcs s :=
  parseLoop_lower s modeUnset

theorem not_letter (c : Char) (h : c ∉ alphabet) :
    letterBit c = none ∧ ¬(c = 'N' ∨ c = 'n') := by
  simp only [alphabet, List.mem_cons, List.not_mem_nil, or_false, not_or] at h
  simp [letterBit, h]

theorem parseLoop_bad (s : List Char) (acc : Mode) (h : ∃ c ∈ s, c ∉ alphabet) :
    ∃ e, parseLoop s acc = .error e := by
  induction s generalizing acc with
  | nil => simp at h
  | cons c cs ih =>
    rw [parseLoop]
    by_cases hc : c ∈ alphabet
    · -- the offending character comes later: a letter goes on, an `N` is not alone
      have hcs : ∃ d ∈ cs, d ∉ alphabet := by
        obtain ⟨d, hd, hbad⟩ := h
        rcases List.mem_cons.mp hd with rfl | hd
        · exact absurd hc hbad
        · exact ⟨d, hd, hbad⟩
      have hne : cs ≠ [] := by
        rintro rfl
        simp at hcs
      split
      · exact ih _ hcs
      · split <;> simp [hne]
    · simp [not_letter c hc]

/-- **Unknown letters are rejected.** A string containing any character outside the mode
alphabet makes `UnmarshalText` fail; the model returns no new value, i.e. the target is unchanged
(the Go side of the correspondence prints the target after the failed call). -/
theorem parse_reject_unchanged (t : Mode) (s : List Char) (h : ∃ c ∈ s, c ∉ alphabet) :
    ∃ e, unmarshal t s = .error e := by
  obtain ⟨e, he⟩ := parseLoop_bad s modeUnset h
  exact ⟨e, by simp [unmarshal, parseAcs, he]⟩

theorem empty_is_nochange (t : Mode) : unmarshal t [] = .ok t ∧ applyMutation t [] = .ok t ∧
    applyDelta t [] = .ok t :=
  ⟨rfl, rfl, rfl⟩

/-- **Effective permission is the intersection**: each permission test on `want &&& given`
holds iff it holds on both. -/
theorem effective_is_inter (w g : Mode) :
    isJoiner (w &&& g) = (isJoiner w && isJoiner g) ∧ isReader (w &&& g) = (isReader w && isReader g) ∧
    isWriter (w &&& g) = (isWriter w && isWriter g) ∧ isPresencer (w &&& g) = (isPresencer w && isPresencer g) ∧
    isApprover (w &&& g) = (isApprover w && isApprover g) ∧ isDeleter (w &&& g) = (isDeleter w && isDeleter g) ∧
    isOwner (w &&& g) = (isOwner w && isOwner g) :=
  ⟨isJoiner_and w g, isReader_and w g, isWriter_and w g, isPresencer_and w g, isApprover_and w g,
    isDeleter_and w g, isOwner_and w g⟩

/-- **Delta law.** The textual difference between any two permission sets, applied to the
first, yields the second. -/
theorem delta_apply (o n : Mode) (ho : Valid o) (hn : Valid n) :
    applyDelta o (delta o n) = .ok n := by
  rw [applyDelta_delta, BitVec.and_comm modeBitmask n, hn, BitVec.and_comm modeBitmask o, ho,
    or_diff_and_not_diff]

/-- What a tracker (another session, a cluster proxy) holds for a subscription side: the
permission set, with "no subscription" (`ModeUnset`) seen as the empty set `N`. -/
def view (m : Mode) : Mode := if m = modeUnset then 0 else m

theorem Valid.ne_unset {m : Mode} (h : Valid m) : m ≠ modeUnset := by
  rintro rfl
  exact absurd h (by decide)

theorem Valid.view_eq {m : Mode} (h : Valid m) : view m = m := if_neg h.ne_unset

theorem Valid.defined {m : Mode} (h : Valid m) : isDefined m = true := by
  have : m ≠ modeInvalid := by
    rintro rfl
    exact absurd h (by decide)
  simp [isDefined, this, h.ne_unset]

/-- **One notification.** The string the authoritative topic puts into a change notification
(`notifySubChange`), applied by a tracker holding the old value (`updateAcsFromPresMsg` →
`ApplyMutation`), leaves the tracker with the new value. -/
theorem notify_apply (old new : Mode) (hold : Valid old ∨ old = modeUnset) (hnew : Valid new ∨ new = modeUnset) :
    applyMutation (view old) (notifyStr old new) = .ok (view new) := by
  rcases hnew with hnv | rfl
  · rw [hnv.view_eq, notifyStr, if_pos hnv.defined]
    split
    · -- the old value was sent before and is not `N`: the difference goes out
      next h =>
      have hov : Valid old := hold.resolve_right (by rintro rfl; exact absurd h (by decide))
      rw [hov.view_eq, applyMutation_delta]
      exact delta_apply old new hov hnv
    · exact applyMutation_toStr _ _ hnv
  · -- unsubscribed: "N" goes out and sets the empty set, whatever was held
    rfl

/-- One subscription side as the authoritative topic and a tracker see it evolve: the master
assigns `new`, the tracker applies the notification string. -/
def masterStep (_m new : Mode) : Mode := new
def trackerStep (p : Except Err Mode) (m new : Mode) : Except Err Mode :=
  match p with
  | .ok v => applyMutation v (notifyStr m new)
  | .error e => .error e

/-- the master's value (first component) and the tracker's (second) after the master has been assigned the listed modes in turn -/
def replay : Mode → Except Err Mode → List Mode → Mode × Except Err Mode
  | m, p, [] => (m, p)
  | m, p, new :: rest => replay (masterStep m new) (trackerStep p m new) rest

/-- **Trackers converge on the authoritative value.** After any sequence of permission
changes (each to a permission set, or to "unsubscribed"), a tracker that started in agreement
and applied every notification holds exactly what the authoritative topic holds. -/
theorem proxy_tracks_master (m0 : Mode) (news : List Mode)
    (h0 : Valid m0 ∨ m0 = modeUnset) (hs : ∀ n ∈ news, Valid n ∨ n = modeUnset) :
    (replay m0 (.ok (view m0)) news).2 = .ok (view (replay m0 (.ok (view m0)) news).1) := by
  induction news generalizing m0 with
  | nil => rfl
  | cons n rest ih =>
    have hn := hs n (by simp)
    simp only [replay, masterStep, trackerStep]
    rw [notify_apply m0 n h0 hn]
    exact ih n hn (fun x hx => hs x (by simp [hx]))

/-! non-vacuity: concrete modes meet the hypotheses and exercise all branches -/
example : Valid 0x2F ∧ Valid 0xFF ∧ Valid 0 := by decide
example : delta 0x1B 0x27 = "+WS-PA".toList := by decide
example : applyDelta 0x1B "+WS-PA".toList = .ok 0x27 := by decide
example : (replay 0 (.ok 0) [0x2F, 0xFF, modeUnset, 0x03]).2 = .ok 0x03 := by decide

end Tinode.Props.C05
