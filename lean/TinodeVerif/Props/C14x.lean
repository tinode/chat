import TinodeVerif.Model.TopicCross
import TinodeVerif.Proofs.World
/-!
C14, crossings: requests which are in flight while their topic is shut down (Model/TopicCross.lean; the driver's operations `hold`,
`hubstep`, `tstep`, `settle` are `Ctx.holdSub` / `holdLeave` / `holdPub` / `holdDelTopic` / `holdUnload`, `Ctx.hubStep`,
`Ctx.topicStep`, `Ctx.settle`; the harness holds the real requests in the real queues and steps the real handlers one at a time).

* the hub refuses a {sub} for a topic which is inactive and releases the session's slot (`hubJoinOne`);
* a topic which terminates answers everything which is still queued for it and releases the slots (`exitPart`:
  `handleTopicTermination` with `drainQueues`, fix 777e645; the code without `drainQueues` lost these requests: never answered, the
  session's single in-flight slot taken for ever);
* a request processed in one piece is the session's part followed by the topic's part (`opLeave_split`, `opPub_split`,
  `opSub_split` below), so what is proved about the parts is about the requests of the other histories too.
-/
namespace Tinode.World

theorem opLeave_split (c : Ctx) (a : Actor) (tn : TName) (unsub : Bool) :
    c.opLeave a tn unsub =
      if !c.w.attached a.sid tn then (if !unsub then c.emit a.sid (ctrl 304 tn) else c.emit a.sid (ctrl 409 tn))
      else c.leaveTopicPart a tn unsub := by
  unfold Ctx.opLeave Ctx.leaveTopicPart; rfl

theorem opPub_split (c : Ctx) (a : Actor) (tn : TName) (content : String) (head : List (String × String)) (noEcho : Bool) :
    c.opPub a tn content head noEcho =
      if !c.w.attached a.sid tn then c.emit a.sid (ctrl 409 tn) else c.pubTopicPart a tn content head noEcho := by
  unfold Ctx.opPub Ctx.pubTopicPart; rfl

/-- a {sub} to a loaded, active topic by a session which is not attached: the hub finds the topic, the topic registers the session -/
theorem opSub_split (c : Ctx) (a : Actor) (tn : TName) (mode : String) (priv : PrivArg) (ug : Bool) (t : Topic)
    (hl : c.w.live? tn = some t) (hact : t.inactive = false) (hatt : c.w.attached a.sid tn = false) :
    c.opSub a tn mode priv ug = c.regTopicPart { kind := "sub", a := a, tn := tn, mode := mode, priv := priv, userGiven := ug } := by
  unfold Ctx.opSub Ctx.regTopicPart Ctx.joinTopic
  simp [hl, hact, hatt]

end Tinode.World

namespace Tinode.Props.C14
open Tinode.World

theorem emit_frames (c : Ctx) (s : Sid) (f : String) : (c.emit s f).frames = c.frames ++ [(s, f)] := World.emit_frames c s f

/-- what a terminating topic does with one queued request: a {sub} and a {pub} are refused with 503, a {leave} too (if it comes with
a user, `r.a.uid ≠ ""`); the slot of a {sub} or {leave} is released -/
theorem handleHeld_exiting (c : Ctx) (r : HeldReq) :
    (r.kind = "sub" → (c.handleHeld r true).frames = c.frames ++ [(r.a.sid, ctrl 503 r.tn)] ∧
        (c.handleHeld r true).w = c.w.setInflight r.a.sid false) ∧
    (r.kind = "pub" → (c.handleHeld r true).frames = c.frames ++ [(r.a.sid, ctrl 503 r.tn)] ∧ (c.handleHeld r true).w = c.w) ∧
    (r.kind = "leave" → (c.handleHeld r true).frames = c.frames ++ (if r.a.uid ≠ "" then [(r.a.sid, ctrl 503 r.tn)] else []) ∧
        (c.handleHeld r true).w = c.w.setInflight r.a.sid false) := by
  unfold Ctx.handleHeld
  refine ⟨fun h => ?_, fun h => ?_, fun h => ?_⟩ <;> simp only [h]
  · exact ⟨rfl, rfl⟩
  · exact ⟨rfl, rfl⟩
  · by_cases hu : r.a.uid = "" <;> simp [hu, Ctx.emit]

theorem handleHeld_exiting_shape (c : Ctx) (r : HeldReq) :
    (∃ l, (c.handleHeld r true).frames = c.frames ++ l) ∧
    ((c.handleHeld r true).w = c.w ∨ (c.handleHeld r true).w = c.w.setInflight r.a.sid false) := by
  unfold Ctx.handleHeld
  -- by the kind of the request: {sub}, {leave}, {pub}, anything else
  split
  · exact ⟨⟨_, rfl⟩, .inr rfl⟩
  · by_cases hu : r.a.uid = ""
    · rw [if_pos rfl, if_neg (not_not_intro hu)]
      exact ⟨⟨[], (List.append_nil _).symm⟩, .inr rfl⟩
    · rw [if_pos rfl, if_pos hu]
      exact ⟨⟨_, rfl⟩, .inr rfl⟩
  · exact ⟨⟨_, rfl⟩, .inl rfl⟩
  · exact ⟨⟨[], (List.append_nil _).symm⟩, .inl rfl⟩

theorem drain_answers (rs : List HeldReq) (c : Ctx) (r : HeldReq) (hr : r ∈ rs) (hk : r.kind = "sub" ∨ r.kind = "pub") :
    (r.a.sid, ctrl 503 r.tn) ∈ (rs.foldl (fun c r => c.handleHeld r true) c).frames := by
  refine foldl_reaches (T := fun c => (r.a.sid, ctrl 503 r.tn) ∈ c.frames) (fun c x h => ?_) (fun c => ?_) hr c
  · obtain ⟨l, hl⟩ := (handleHeld_exiting_shape c x).1
    exact hl ▸ List.mem_append_left l h
  · rcases hk with hk | hk
    · rw [((handleHeld_exiting c r).1 hk).1]; simp
    · rw [((handleHeld_exiting c r).2.1 hk).1]; simp

/-- the drain of a terminating topic comes to every {sub}, {leave} and {pub} of its queue -/
theorem mem_exit_order (t : Topic) (r : HeldReq) (hr : r ∈ t.q) (hk : r.kind = "sub" ∨ r.kind = "leave" ∨ r.kind = "pub") :
    r ∈ t.q.filter (·.kind = "sub") ++ t.q.filter (·.kind = "leave") ++ t.q.filter (·.kind = "pub") := by
  simpa [hr, or_assoc] using hk

/-- **No request is lost when a topic stops.** Every {sub} and every {pub} which is still in the topic's queue when it terminates is
answered (503, the topic is gone) -/
theorem exit_answers_queued (c : Ctx) (t : Topic) (r : HeldReq) (hr : r ∈ t.q) (hk : r.kind = "sub" ∨ r.kind = "pub") :
    (r.a.sid, ctrl 503 r.tn) ∈ (c.exitPart t).frames :=
  drain_answers _ _ r (mem_exit_order t r hr (hk.imp_right .inr)) hk

theorem inflight_setInflight (w : World) (a b : Sid) (v : Bool) :
    (w.setInflight a v).inflight b = if b = a then (v && (w.sess? b).isSome) else w.inflight b := by
  unfold World.inflight World.setInflight World.sess?
  -- the update keeps the ids, so `find?` finds the updated session
  rw [List.find?_map, show (fun x : Sess => decide (x.sid = b)) ∘ _ = fun x => decide (x.sid = b) from
    funext fun x => by dsimp only [Function.comp]; split <;> rfl]
  cases h : w.sess.find? (·.sid = b) with
  | none => simp
  | some s =>
    obtain rfl : s.sid = b := find_key Sess.sid w.sess b h
    by_cases ha : s.sid = a <;> simp [ha]

theorem setInflight_inflight (w : World) (sid : Sid) (b : Bool) (h : (w.sess? sid).isSome) :
    (w.setInflight sid b).inflight sid = b := by
  rw [inflight_setInflight, if_pos rfl, h, Bool.and_true]

theorem inflight_release (w : World) (a b : Sid) (h : b = a ∨ w.inflight b = false) :
    (w.setInflight a false).inflight b = false := by
  rw [inflight_setInflight]
  split
  · rfl
  · exact h.resolve_left ‹_›

theorem foldl_handleHeld_releases (rs : List HeldReq) (c : Ctx) (r : HeldReq) (hr : r ∈ rs) (hk : r.kind = "sub" ∨ r.kind = "leave") :
    (rs.foldl (fun c r => c.handleHeld r true) c).w.inflight r.a.sid = false := by
  refine foldl_reaches (T := fun c => c.w.inflight r.a.sid = false) (fun c x h => ?_) (fun c => ?_) hr c
  · rcases (handleHeld_exiting_shape c x).2 with hw | hw <;> rw [hw]
    · exact h
    · exact inflight_release _ _ _ (.inr h)
  · have hw : (c.handleHeld r true).w = c.w.setInflight r.a.sid false :=
      hk.elim (fun hk => ((handleHeld_exiting c r).1 hk).2) fun hk => ((handleHeld_exiting c r).2.2 hk).2
    rw [hw]
    exact inflight_release _ _ _ (.inl rfl)

/-- `foldl_handleHeld_releases` for a session which is still there; `hs` is not made use of, since a session which is gone holds
no slot -/
theorem drain_releases (rs : List HeldReq) (c : Ctx) (r : HeldReq) (hr : r ∈ rs) (hk : r.kind = "sub" ∨ r.kind = "leave")
    (hs : (c.w.sess? r.a.sid).isSome) :
    (rs.foldl (fun c r => c.handleHeld r true) c).w.inflight r.a.sid = false :=
  have _ := hs
  foldl_handleHeld_releases rs c r hr hk

/-- **No session is left waiting when a topic stops.** The single in-flight slot of every session whose {sub} or {leave} is still in
the topic's queue when it terminates is released: the session's next {sub} or {leave}, and its cleanup, go on -/
theorem exit_releases_slots (c : Ctx) (t : Topic) (r : HeldReq) (hr : r ∈ t.q) (hk : r.kind = "sub" ∨ r.kind = "leave")
    (hs : (c.w.sess? r.a.sid).isSome) :
    (c.exitPart t).w.inflight r.a.sid = false :=
  have _ := hs
  foldl_handleHeld_releases _ _ r (mem_exit_order t r hr (hk.elim .inl (.inr ∘ .inl))) hk

theorem hub_refuses_inactive (c : Ctx) (r : HeldReq) (t : Topic) (hl : c.w.live? r.tn = some t) (hin : t.inactive = true) :
    (c.hubJoinOne r).frames = c.frames ++ [(r.a.sid, ctrl 503 r.tn)] ∧ (c.hubJoinOne r).w = c.w.setInflight r.a.sid false := by
  unfold Ctx.hubJoinOne Ctx.joinTopic
  simp only [hl, hin]
  exact ⟨rfl, rfl⟩

theorem hub_hands_over (c : Ctx) (r : HeldReq) (t : Topic) (hl : c.w.live? r.tn = some t) (hact : t.inactive = false) :
    (c.hubJoinOne r).frames = c.frames ∧ (c.hubJoinOne r).w = c.w.enqueue r.tn r := by
  unfold Ctx.hubJoinOne Ctx.joinTopic
  simp only [hl, hact]
  exact ⟨rfl, rfl⟩

/-- the {sub} of a session which is not attached to the topic yet is held for the hub, and nothing is answered. (That the session's
slot is taken - `setInflight … true` in `holdSub` - is not part of the statement; `setInflight_inflight` reads such a slot.) -/
theorem holdSub_takes_slot (c : Ctx) (r : HeldReq) (hatt : c.w.attached r.a.sid r.tn = false) :
    (c.holdSub r).w.hubJoin = c.w.hubJoin ++ [r] ∧ (c.holdSub r).frames = c.frames := by
  unfold Ctx.holdSub
  rw [hatt]
  exact ⟨rfl, rfl⟩

/-- the premises are met: a topic which is shutting down with a {sub} and a {pub} queued -/
example :
    let r1 : HeldReq := { kind := "sub", a := { sid := "S3", sessUid := "U3", uid := "U3", lvl := .auth, bg := false }, tn := "T1" }
    let r2 : HeldReq := { kind := "pub", a := { sid := "S2", sessUid := "U2", uid := "U2", lvl := .auth, bg := false }, tn := "T1", content := "X" }
    let t : Topic := { name := "T1", owner := "U1", deleted := true, q := [r2, r1] }
    (("S3", ctrl 503 "T1") ∈ (({ w := { exiting := [t] } } : Ctx).exitPart t).frames) ∧
    (("S2", ctrl 503 "T1") ∈ (({ w := { exiting := [t] } } : Ctx).exitPart t).frames) := by
  intro r1 r2 t
  exact ⟨exit_answers_queued _ t r1 (by simp [t]) (Or.inl rfl), exit_answers_queued _ t r2 (by simp [t]) (Or.inr rfl)⟩

end Tinode.Props.C14
