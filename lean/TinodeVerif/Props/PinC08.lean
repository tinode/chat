import TinodeVerif.Gen.AdapterPin
import TinodeVerif.Props.Pin
/-! C08: the adapter functions its store behaviour rests on are the ones which were transcribed and reviewed (see Props/Pin.lean). -/
namespace Tinode.Props.Pin
open Tinode.AdapterPin

theorem C08_store_functions_as_reviewed : pinsFor Tinode.Gen.AdapterPin.pins "C08" = pinsFor expected "C08" := by rfl

end Tinode.Props.Pin
