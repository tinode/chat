import TinodeVerif.Proofs.Ranges
/-!
# C04 — history exact; deletion exact

Layer 1 (pure): `RangeSorter.Normalize` after `sort.Sort(RangeSorter)` — the two call sites are
the delete path (topic.go:3218-3221) and the deletion-log path (store.go:782-783).
Both theorems are `normalize_spec` (Proofs/Ranges.lean) at the sorted list, whose entries are those of `rs`.
-/
namespace Tinode.Props.C04
open Tinode.Ranges

/-- **Normalisation denotes exactly the union** of the listed ranges, whatever the order,
overlap, nesting, adjacency or duplication of the entries. -/
theorem normalize_union (rs : List Range) (hwf : ∀ r ∈ rs, r.WF) (x : Int) :
    memList (normalize (sortRanges rs)) x ↔ memList rs x :=
  ((normalize_spec _ (fun r hr => hwf r (mem_sortRanges.mp hr)) (sortRanges_sorted rs)).1 x).trans
    (memList_sortRanges rs x)

/-- **The result is collapsed**: every emitted range is well formed and consecutive ranges are
separated by at least one id that is in neither (no overlap, no adjacency). -/
theorem normalize_separated (rs : List Range) (hwf : ∀ r ∈ rs, r.WF) :
    (∀ r ∈ normalize (sortRanges rs), r.WF) ∧
    (normalize (sortRanges rs)).Pairwise (fun a b => upper a < b.low) :=
  (normalize_spec _ (fun r hr => hwf r (mem_sortRanges.mp hr)) (sortRanges_sorted rs)).2

/-! Regression vectors of fix f754873 (`RangeSorter.Normalize` lost and added ids when merging): ranges with one id between them, a range after a merge, a single id touching a range. The last line: the hypothesis `WF` is met by such a list. -/
example : normalize [⟨1, 3⟩, ⟨4, 6⟩] = [⟨1, 3⟩, ⟨4, 6⟩] := by decide
example : normalize [⟨1, 3⟩, ⟨2, 4⟩, ⟨10, 12⟩] = [⟨1, 4⟩, ⟨10, 12⟩] := by decide
example : normalize [⟨1, 3⟩, ⟨3, 0⟩] = [⟨1, 4⟩] := by decide
example : ∀ r ∈ [(⟨4, 6⟩ : Range), ⟨1, 3⟩, ⟨3, 0⟩], r.WF := by decide

end Tinode.Props.C04
