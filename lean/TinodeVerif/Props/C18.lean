import TinodeVerif.Model.TxSkel
/-!
# C18 — multi-row store updates are all-or-nothing
`Gen/TxSkel.lean` is REGENERATED on every run from server/db/{mysql,postgres}/adapter.go: for every function that
begins a transaction, its return sites after the Begin and its statements on the transaction, with identifier
resolution done by lexical scope (so a shadowing `res, err := tx.Exec(…)` is seen as a different variable).

What it means for a return site to close the bracket and to report the failure, and for a statement to be covered, is said
with the predicates in `Model/TxSkel.lean`.
-/
namespace Tinode.Props.C18
open Tinode.Gen.TxSkel

/-- An execution of a transactional function ends at one of its return sites. Which statements it ran and which of them
failed is not recorded: what is claimed holds at every return site, and of every statement separately (`Call.covered`). -/
structure Exec (f : TxFn) where
  ret : Ret
  hret : ret ∈ f.rets

/-- the bracket is closed: committed, rolled back by the deferred handler, or never opened -/
def Exec.closed {f : TxFn} (e : Exec f) : Prop := e.ret.closes = true
/-- the caller gets an error unless the function committed -/
def Exec.reported {f : TxFn} (e : Exec f) : Prop := e.ret.reports = true

/-- In a well-formed function every execution closes its transaction bracket and reports failure; no statement's error can
bypass the variable the rollback handler tests. -/
theorem wf_atomic (f : TxFn) (h : f.wf = true) :
    (∀ e : Exec f, e.closed ∧ e.reported) ∧ (∀ c ∈ f.calls, c.covered = true) ∧ f.deferOk = true := by
  unfold TxFn.wf at h
  simp only [Bool.and_eq_true, List.all_eq_true] at h
  obtain ⟨⟨h1, h2⟩, h3⟩ := h
  exact ⟨fun e => h2 e.ret e.hret, h3, h1⟩

/-- Every transactional store operation of both SQL adapters is well formed (a complete finite table, regenerated from the
source). -/
theorem all_skeletons_wf : ∀ f ∈ fns, f.name ∈ exempt ∨ f.wf = true := by decide +kernel

/-- the operations the property names are all present in the table, for both adapters -/
theorem operations_present :
    ∀ ad ∈ ["mysql", "postgres"], ∀ n ∈ ["UserCreate", "TopicCreateP2P", "TopicShare", "TopicDelete", "SubsDelete",
      "SubsDelForUser", "UserDelete", "MessageDeleteList", "UserUpdateTags", "CredUpsert", "FileFinishUpload",
      "FileLinkAttachments", "FileDeleteUnused", "TopicCreate", "TopicUpdate", "UserUpdate", "SubsUpdate", "CredDel",
      "DeviceUpsert", "DeviceDelete"],
      fns.any (fun f => f.adapter == ad && f.name == n) = true := by decide +kernel

/-- the blocks guarded by `err != nil` which are left without returning the error are the ones listed at
`expectedTolerated` (Model/TxSkel.lean); any other tolerated error changes `Gen.TxSkel.tolerated` and breaks this tie -/
theorem tolerated_ok : tolerated = expectedTolerated := by rfl

end Tinode.Props.C18
