import TinodeVerif.Gen.AdapterPin
import TinodeVerif.Props.Pin
/-! C10: the adapter functions its store behaviour rests on are the ones which were transcribed and reviewed (see Props/Pin.lean). -/
namespace Tinode.Props.Pin
open Tinode.AdapterPin

theorem C10_store_functions_as_reviewed : pinsFor Tinode.Gen.AdapterPin.pins "C10" = pinsFor expected "C10" := by rfl

end Tinode.Props.Pin
