import TinodeVerif.Model.TopicP2PRaw
import TinodeVerif.Proofs.World
import TinodeVerif.Proofs.Guards
/-!
C07, the peer-to-peer clause, for a request which names the topic by its routable name: "a peer-to-peer topic never has a
third participant".  Somebody who is not one of the two can send {sub} under the `p2p…` name.  Whatever the store holds and
wherever a store call fails, the request is refused, nothing in the store changes, the session is attached to nothing, and a
topic which the request causes to be loaded has the two stored subscribers and nobody else.
-/
namespace Tinode.Props.C07
open Tinode.World

/-- `x` has the frames of `c` and one refusal, and the world of `c` with at most the topic loaded, as a row with two subscriptions gives it
(the log of store calls is left open) -/
def StrangerRefused (c : Ctx) (a : Actor) (key : TName) (x : Ctx) : Prop :=
  ∃ code, (code = 403 ∨ code = 404 ∨ code = 500) ∧ x.frames = c.frames ++ [(a.sid, ctrl code key)] ∧
    (x.w = c.w ∨ ∃ r, c.w.row? key = some r ∧ (r.subs.filter (!·.deleted)).length = 2 ∧
      x.w = c.w.setLive (p2pAttachTopic key r))

theorem StrangerRefused.emit {c : Ctx} {a : Actor} {key : TName} (code : Nat) (hc : code = 403 ∨ code = 404 ∨ code = 500) :
    StrangerRefused c a key (c.emit a.sid (ctrl code key)) :=
  ⟨code, hc, rfl, .inl rfl⟩

/-- store calls which only read, made before, do not show -/
theorem StrangerRefused.after_reads {c c1 x : Ctx} {a : Actor} {key : TName} (h : c1.w = c.w ∧ c1.frames = c.frames)
    (hx : StrangerRefused c1 a key x) : StrangerRefused c a key x := by
  unfold StrangerRefused at hx
  rwa [h.1, h.2] at hx

/-- every way through the handler: each exit is one refusal, after store calls which only read -/
theorem stranger_sub_result (c : Ctx) (a : Actor) (key : TName) : StrangerRefused c a key (c.opSubStrangerP2P a key) := by
  unfold Ctx.opSubStrangerP2P
  extract_lets nobody
  have hn (c1 : Ctx) : StrangerRefused c1 a key (nobody c1) := by
    unfold nobody
    split
    next c2 _ e2 =>
    exact .after_reads (call_reads e2) (ite_ind (fun _ => .emit 500 (by decide)) fun _ => .emit 404 (by decide))
  clear_value nobody
  split
  · exact .emit 403 (by decide)
  split
  next c1 _ e1 =>
  refine .after_reads (call_reads e1) (ite_ind (fun _ => .emit 500 (by decide)) fun _ => ?_)
  split
  · exact hn c1
  next r hr =>
  split
  next c2 _ e2 =>
  refine .after_reads (call_reads e2) (ite_ind (fun _ => .emit 500 (by decide)) fun _ => ?_)
  extract_lets subs
  refine ite_ind (fun _ => .emit 500 (by decide)) fun _ => ?_
  -- the one exit that loads the topic
  exact ite_ind (fun hlen => ⟨403, by decide, rfl, .inr ⟨r, (call_reads e2).1 ▸ hr, hlen, rfl⟩⟩) fun _ => hn c2

/-- the store is as it was: no subscription is created, changed or revived -/
theorem stranger_sub_store_unchanged (c : Ctx) (a : Actor) (key : TName) :
    (c.opSubStrangerP2P a key).w.store = c.w.store := by
  obtain ⟨_, _, _, h | ⟨_, _, _, h⟩⟩ := stranger_sub_result c a key <;> rw [h] <;> rfl

/-- the session is attached to nothing new -/
theorem stranger_sub_not_attached (c : Ctx) (a : Actor) (key : TName) :
    (c.opSubStrangerP2P a key).w.sess = c.w.sess := by
  obtain ⟨_, _, _, h | ⟨_, _, _, h⟩⟩ := stranger_sub_result c a key <;> rw [h] <;> rfl

theorem stranger_sub_refused (c : Ctx) (a : Actor) (key : TName) :
    ∃ code, (code = 403 ∨ code = 404 ∨ code = 500) ∧
      (c.opSubStrangerP2P a key).frames = c.frames ++ [(a.sid, ctrl code key)] :=
  let ⟨code, hc, hf, _⟩ := stranger_sub_result c a key
  ⟨code, hc, hf⟩

/-- a topic the request brings into memory is `p2pAttachTopic` of a stored row with exactly two live subscriptions (whose participants
`attached_participants` gives) -/
theorem stranger_sub_loads_two (c : Ctx) (a : Actor) (key : TName) :
    (c.opSubStrangerP2P a key).w.live = c.w.live ∨
    ∃ r, c.w.row? key = some r ∧ (r.subs.filter (!·.deleted)).length = 2 ∧
      (c.opSubStrangerP2P a key).w.live = (c.w.setLive (p2pAttachTopic key r)).live := by
  obtain ⟨_, _, _, h | ⟨r, hr, hlen, h⟩⟩ := stranger_sub_result c a key
  · exact .inl (congrArg World.live h)
  · exact .inr ⟨r, hr, hlen, congrArg World.live h⟩

/-- the topic `p2pAttachTopic` makes of a stored row (what `stranger_sub_loads_two` says is loaded) has the name `key` and
the row's live subscribers as participants, nobody else: the requester is not among them unless the store said so -/
theorem attached_participants (key : TName) (r : TopicRow) :
    (p2pAttachTopic key r).perUser.map (·.1) = (r.subs.filter (!·.deleted)).map (·.user) ∧ (p2pAttachTopic key r).name = key := by
  simp [p2pAttachTopic, List.map_map, Function.comp_def]

theorem stranger_desc_refused (c : Ctx) (a : Actor) (key : TName) :
    (c.opGetDescStrangerP2P a key).frames = c.frames ++ [(a.sid, ctrl 400 key)] ∧ (c.opGetDescStrangerP2P a key).w = c.w :=
  ⟨rfl, rfl⟩

/-- the premises are met: a stored topic with both subscriptions is loaded and the stranger refused with 403 -/
example :
    let r : TopicRow := { name := "P:U1:U2", subs := [{ user := "U1", want := 0, given := 0 }, { user := "U2", want := 0, given := 0 }] }
    let c : Ctx := { w := { store := [r] } }
    let a : Actor := { sid := "S3", uid := "U3", lvl := .auth, sessUid := "U3", bg := false }
    (c.opSubStrangerP2P a "P:U1:U2").frames = [("S3", ctrl 403 "P:U1:U2")] ∧
    ((c.opSubStrangerP2P a "P:U1:U2").w.live.map (fun t => t.perUser.map (·.1))) = [["U1", "U2"]] := by
  decide +kernel

end Tinode.Props.C07
