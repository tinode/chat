import TinodeVerif.Props.C01
/-!
C01 over whole histories (the property in short): within one topic, accepted messages get consecutive numbers; no number is issued twice; after
the topic is unloaded and loaded again, or the server restarts, numbering continues strictly above every number ever shown.

`Props/C01.lean` proves the step: one publish under every fault plan, one load.  Here the steps are put together, for EVERY
sequence - of any length - of publishes (by anybody, attached or not, permitted or not, with any store call made to fail), unloads and loads of the topic. (`crashK` only
makes `Ctx.call` take a snapshot, which no step reads: a restart from the snapshot is not among the steps.)
-/
namespace Tinode.Props.C01
open Tinode.World

inductive Step
  | pub (a : Actor) (content : String) (head : List (String × String)) (noEcho : Bool) (failK crashK : Nat)
  | unload          -- the idle timer, or the server stops
  | load            -- somebody attaches, the topic is read from its row
deriving Repr

def stepW (tn : TName) (w : World) : Step → World
  | .pub a content head noEcho fk ck => (({ w := w, failK := fk, crashK := ck } : Ctx).opPub a tn content head noEcho).w
  | .unload => w.delLive tn
  | .load => match w.live? tn, w.row? tn with
    | none, some r => w.setLive (loadTopic r)
    | _, _ => w

def runW (tn : TName) (w : World) (steps : List Step) : World := steps.foldl (stepW tn) w

/-- the invariant of the topic in a world: the row is there and in order, and the loaded topic - if it is loaded - counts at least as far
as every stored message and no further than the row -/
def TopicInv (w : World) (tn : TName) : Prop :=
  ∃ r, w.row? tn = some r ∧ r.name = tn ∧ StoreInv r ∧ ∀ t, w.live? tn = some t → LiveInv t r

/-- what was stored stays stored, in place: later rows extend earlier ones -/
def Extends (w w' : World) (tn : TName) : Prop :=
  ∀ r, w.row? tn = some r → ∃ r' l, w'.row? tn = some r' ∧ r'.msgs = r.msgs ++ l ∧ r'.name = r.name

theorem Extends.refl {w : World} {tn : TName} : Extends w w tn := fun r hr => ⟨r, [], hr, (List.append_nil _).symm, rfl⟩

theorem step_inv (tn : TName) (w : World) (s : Step) (h : TopicInv w tn) :
    TopicInv (stepW tn w s) tn ∧ Extends w (stepW tn w s) tn := by
  obtain ⟨r, hrow, hname, hs, hl⟩ := h
  have same : ∀ w', w'.row? tn = w.row? tn → (∀ t, w'.live? tn = some t → w.live? tn = some t) →
      TopicInv w' tn ∧ Extends w w' tn := by
    intro w' hr hlv
    refine ⟨⟨r, by rw [hr]; exact hrow, hname, hs, fun t ht => hl t (hlv t ht)⟩, ?_⟩
    intro r0 hr0
    exact ⟨r0, [], by rw [hr]; exact hr0, by simp, rfl⟩
  cases s with
  | unload => exact same _ rfl fun t ht => by rw [show stepW tn w .unload = w.delLive tn from rfl, live_delLive] at ht; cases ht
  | load =>
    show TopicInv (match w.live? tn, w.row? tn with | none, some r => w.setLive (loadTopic r) | _, _ => w) tn ∧
      Extends w (match w.live? tn, w.row? tn with | none, some r => w.setLive (loadTopic r) | _, _ => w) tn
    cases hlive : w.live? tn with
    | some t => exact same w rfl (fun _ h => h)
    | none =>
      simp only [hrow]
      refine ⟨⟨r, hrow, hname, hs, fun t ht => ?_⟩, Extends.refl⟩
      rw [← show (loadTopic r).name = tn from hname, live_setLive] at ht
      cases ht
      exact (load_resumes_above r hs).2.1
  | pub a content head noEcho fk ck =>
    let c : Ctx := { w := w, failK := fk, crashK := ck }
    show TopicInv (c.opPub a tn content head noEcho).w tn ∧ Extends w (c.opPub a tn content head noEcho).w tn
    by_cases hg : ∃ t, Guards c a tn t
    · obtain ⟨t, g⟩ := hg
      obtain ⟨t', r', hl', hr', hs', hli', _, l, hm⟩ := pub_preserves_inv c a tn content head noEcho t r g hrow hs (hl t g.live)
      have hn' := row_name hr'
      refine ⟨⟨r', hr', hn', hs', fun t2 ht2 => ?_⟩, fun r0 hr0 => ?_⟩
      · rw [hl'] at ht2; cases ht2; exact hli'
      · rw [hrow] at hr0; cases hr0
        exact ⟨r', l, hr', hm, hn'.trans hname.symm⟩
    · rw [opPub_w_of_no_guards (fun t g => hg ⟨t, g⟩)]
      exact same w rfl (fun _ h => h)

theorem Extends.trans {w1 w2 w3 : World} {tn : TName} (h12 : Extends w1 w2 tn) (h23 : Extends w2 w3 tn) : Extends w1 w3 tn := by
  intro r hr
  obtain ⟨r2, l2, hr2, hm2, hn2⟩ := h12 r hr
  obtain ⟨r3, l3, hr3, hm3, hn3⟩ := h23 r2 hr2
  exact ⟨r3, l2 ++ l3, hr3, by rw [hm3, hm2, List.append_assoc], by rw [hn3, hn2]⟩

/-- **every history**: after any sequence of publishes, unloads and loads the invariant holds, and the messages stored before are a
prefix of the messages stored after -/
theorem history_inv (tn : TName) (steps : List Step) (w : World) (h : TopicInv w tn) :
    TopicInv (runW tn w steps) tn ∧ Extends w (runW tn w steps) tn := by
  induction steps generalizing w with
  | nil => exact ⟨h, .refl⟩
  | cons s rest ih =>
    obtain ⟨h1, e1⟩ := step_inv tn w s h
    obtain ⟨h2, e2⟩ := ih (stepW tn w s) h1
    exact ⟨h2, e1.trans e2⟩

/-- **no number is issued twice, whatever happens in between**: in every world reachable from one which satisfies the invariant,
two stored messages with the same number are the same message, and every message stored earlier is still there under its number -/
theorem numbers_unique_over_histories (tn : TName) (steps : List Step) (w : World) (h : TopicInv w tn) :
    ∃ r', (runW tn w steps).row? tn = some r' ∧ (r'.msgs.map (·.seq)).Pairwise (· < ·) ∧
      ∀ r, w.row? tn = some r → ∀ m ∈ r.msgs, m ∈ r'.msgs := by
  obtain ⟨⟨r', hr', _, hs', _⟩, ext⟩ := history_inv tn steps w h
  refine ⟨r', hr', hs'.1, ?_⟩
  intro r hr m hm
  obtain ⟨r2, l, hr2, hm2, _⟩ := ext r hr
  rw [hr'] at hr2; cases hr2
  rw [hm2]; exact List.mem_append_left _ hm

/-- the premises are met: a freshly created topic satisfies the invariant -/
example : TopicInv { store := [{ name := "T1" }], live := [loadTopic { name := "T1" }] } "T1" := by
  refine ⟨{ name := "T1" }, by decide +kernel, rfl, ⟨by simp, by simp⟩, ?_⟩
  intro t ht
  have : t = loadTopic { name := "T1" } := by
    have h2 : ({ store := [{ name := "T1" }], live := [loadTopic { name := "T1" }] } : World).live? "T1" = some (loadTopic { name := "T1" }) := by
      decide +kernel
    rw [h2] at ht; cases ht; rfl
  subst this
  exact (load_resumes_above _ ⟨by simp, by simp⟩).2.1

end Tinode.Props.C01
