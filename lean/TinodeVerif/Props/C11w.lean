import TinodeVerif.Model.TopicMe
/-!
C11, a session which stops being authenticated while it is connected: loading the user's `me` topic reads the account
(`initTopicMe`, init_topic.go:135-147); when the account cannot be read - it is gone, or the store failed - the server logs the
session out. From then on the session is not logged in: dispatch refuses whatever it sends with 401 (a note is dropped), and a
request on behalf of somebody else is refused as one from a session which is not root (`resolveActor`), whatever level the session
had. `Ctx.initMe`, `Ctx.loggedOut` (Model/TopicMe.lean) and `resolveActor` (Model/TopicOps.lean) transcribe those three places; the
world stream ties them to the code and the C11 monitor checks the clause on every generated history.
-/
namespace Tinode.Props.C11
open Tinode.World

/-- the account cannot be read - the first store call fails, or finds nothing: the session is logged out and the request is
answered with an error; no topic is created -/
theorem logout_on_unreadable_account (c : Ctx) (a : Actor) (s : Sess)
    (hfail : (c.call "UserGet").2 = false ∨ ((c.call "UserGet").2 = true ∧ (c.call "UserGet").1.w.user? a.uid = none))
    (hsess : (c.call "UserGet").1.w.sess? a.sid = some s) :
    (c.initMe a).2 = none ∧
    ∃ c' : Ctx, (c.initMe a).1 = c'.emit a.sid (ctrl (if (c.call "UserGet").2 then 404 else 500) a.uid) ∧
      c'.w = (c.call "UserGet").1.w.setSess { s with out := true } := by
  unfold Ctx.initMe
  rcases hfail with hf | ⟨hf, hu⟩
  · simp only [hf, Bool.not_false, if_true, hsess, Bool.false_eq_true, if_false]
    exact ⟨trivial, _, rfl, rfl⟩
  · simp only [hf, Bool.not_true, Bool.false_eq_true, if_false, hu, hsess, if_true]
    exact ⟨trivial, _, rfl, rfl⟩

/-- `Ctx.loggedOut`, the answer to whatever a logged-out session sends: 401 - or nothing, if it is a note - and nothing else
happens. (That the driver sends the requests of a session with `out` set there is not a theorem: Driver/World.lean.) -/
theorem logged_out_refused (c : Ctx) (sid : Sid) (orig : String) (isNote : Bool) :
    (c.loggedOut sid orig isNote).w = c.w ∧ (c.loggedOut sid orig isNote).calls = c.calls ∧
    (c.loggedOut sid orig isNote).pushes = c.pushes ∧ (c.loggedOut sid orig isNote).off = c.off ∧
    (c.loggedOut sid orig isNote).frames = c.frames ++ (if isNote then [] else [(sid, ctrl 401 orig)]) := by
  unfold Ctx.loggedOut
  cases isNote
  · exact ⟨rfl, rfl, rfl, rfl, rfl⟩
  · simp

theorem logged_out_cannot_act_for_others (c : Ctx) (s : Sess) (u : Uid) (lv : String) (h : s.out = true) :
    resolveActor c s (some (u, lv)) = .error (c.emit s.sid (ctrl 403 "-")) := by
  unfold resolveActor
  simp [h]

/-- the premises are met: a session of an account which is gone -/
example : let w : World := { sess := [{ sid := "S8", uid := "U5", lvl := .root }] }
    (({ w := w } : Ctx).call "UserGet").2 = true ∧ (({ w := w } : Ctx).call "UserGet").1.w.user? "U5" = none := by
  simp [Ctx.call, World.user?]

end Tinode.Props.C11
