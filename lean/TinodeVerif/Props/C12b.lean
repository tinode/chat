import TinodeVerif.Model.Basic
import TinodeVerif.Proofs.Guards
/-!
C12, password clause — a wrong password or unknown login never authenticates, and login names are unique regardless of
letter case. Over `Basic.add`, `Basic.authenticate` (Model/Basic.lean).
-/
namespace Tinode.Props.C12
open Tinode.Basic

theorem find_some {st : St} {u : List Char} {r : Rec} (h : find st u = some r) : r ∈ st ∧ r.uname = u :=
  ⟨List.mem_of_find?_eq_some h, by simpa using List.find?_some h⟩

/-- authentication succeeds only for a stored, unexpired record whose login is the lower-cased login of the secret and whose
password is exactly the password of the secret; it then yields that record's user and level -/
theorem password_auth_sound (st : St) (secret : List Char) (uid : String) (lvl : Nat)
    (h : authenticate st secret = (.ok, some (uid, lvl))) :
    ∃ u p r, parseSecret secret = some (u, p) ∧ r ∈ st ∧ r.uname = u ∧ r.pass = p ∧ r.expired = false ∧ r.uid = uid ∧ r.lvl = lvl := by
  unfold authenticate at h
  split at h
  · cases h
  · rename_i u p hp
    split at h
    · cases h
    · rename_i r hf
      rw [guard_eq_iff (by simp), guard_eq_iff (by simp)] at h
      obtain ⟨he, hpw, hr⟩ := h
      cases hr
      exact ⟨u, p, r, hp, (find_some hf).1, (find_some hf).2, Decidable.not_not.mp hpw, Bool.eq_false_iff.mpr he, rfl, rfl⟩

theorem unknown_login_fails (st : St) (secret : List Char) (u p : List Char)
    (hp : parseSecret secret = some (u, p)) (hn : find st u = none) : authenticate st secret = (.failed, none) := by
  simp only [authenticate, hp, hn]

theorem wrong_password_fails (st : St) (secret : List Char) (u p : List Char) (r : Rec)
    (hp : parseSecret secret = some (u, p)) (hf : find st u = some r) (hw : r.pass ≠ p) :
    (authenticate st secret).2 = none := by
  simp only [authenticate, hp, hf, if_pos hw]
  split <;> rfl

theorem login_lowercased (u p : List Char) (hu : ':' ∉ u) : parseSecret (u ++ ':' :: p) = some (lower u, p) := by
  have hu' : ∀ c ∈ u, decide (c ≠ ':') = true := fun c hc => decide_eq_true fun e => hu (e ▸ hc)
  rw [parseSecret, if_pos (by simp), List.takeWhile_append_of_pos hu', List.dropWhile_append_of_pos hu']
  simp

def Unique (st : St) : Prop := (st.map (·.uname)).Nodup

/-- adding a record keeps logins unique: a login that exists (in any letter case, by `login_lowercased`) is refused -/
theorem add_keeps_unique (st : St) (uid : String) (lvl : Nat) (secret : List Char) (e : Bool) (h : Unique st) :
    Unique (add st uid lvl secret e).1 := by
  unfold add
  split
  · exact h
  · rename_i u p _
    -- a check of `add` that refuses leaves the records as they are
    let P (r : St × Res × Nat) : Prop := Unique r.1
    refine ite_ind (P := P) (fun _ => h) fun _ => ?_
    refine ite_ind (P := P) (fun _ => h) fun _ => ?_
    refine ite_ind (P := P) (fun _ => h) fun hdup => ?_
    have hf : ∀ r ∈ st, r.uname ≠ u := fun r hr e =>
      hdup (.inl (List.find?_isSome.mpr ⟨r, hr, decide_eq_true e⟩))
    simpa [P, Unique, List.nodup_append] using And.intro h hf

theorem taken_login_refused (st : St) (uid : String) (lvl : Nat) (secret : List Char) (e : Bool) (u p : List Char) (r : Rec)
    (hp : parseSecret secret = some (u, p)) (hl : loginOk u = true) (hpw : passOk p = true) (hf : find st u = some r) :
    add st uid lvl secret e = (st, .duplicate, 0) := by
  simp [add, hp, hl, hpw, hf]

example : (authenticate [{ uname := "alice".toList, uid := "U1", lvl := 20, pass := "secret1".toList }] "ALICE:secret1".toList).1 = .ok := by
  -- the literals are read as `String.ofList` of their characters, so that evaluation does not decode their UTF-8
  repeat rw [String.toList_ofList]
  decide
example : (authenticate [{ uname := "alice".toList, uid := "U1", lvl := 20, pass := "secret1".toList }] "alice:Secret1".toList).1 = .failed := by
  repeat rw [String.toList_ofList]
  decide

end Tinode.Props.C12
