import TinodeVerif.Props.C01
import TinodeVerif.Proofs.Modes
/-!
C03 — only users with effective write permission can add a message to a topic.

Stated over `Ctx.opPub` (Model/TopicReq.lean), the transcription of Session.publish → Topic.handlePubBroadcast →
saveAndBroadcastMessage for group topics.
-/
namespace Tinode.Props.C03
open Tinode.World Tinode.Acs

/-- the property's acceptance condition: session attached, topic loaded and neither suspended, being deleted nor read-only,
author subscribed with W in both the requested and the granted mode -/
def pubAllowed (w : World) (a : Actor) (tn : TName) : Bool :=
  w.attached a.sid tn &&
  match w.live? tn with
  | none => false
  | some t => !t.inactive && !t.readOnly && isWriter (t.pud a.uid).want && isWriter (t.pud a.uid).given

/-- write permission is effective iff it is in both the requested and the granted mode -/
theorem writer_both (w g : Mode) : isWriter (w &&& g) = (isWriter w && isWriter g) := isWriter_and w g

theorem allowed_iff_guards (c : Ctx) (a : Actor) (tn : TName) : pubAllowed c.w a tn = true ↔ ∃ t, C01.Guards c a tn t := by
  unfold pubAllowed
  constructor
  · intro h
    cases hl : c.w.live? tn with
    | none => simp [hl] at h
    | some t =>
      simp only [hl, Bool.and_eq_true, Bool.not_eq_true'] at h
      obtain ⟨hatt, ⟨⟨hact, hro⟩, hww⟩, hwg⟩ := h
      exact ⟨t, hatt, hl, hact, hro, by unfold eff; rw [isWriter_and, hww, hwg]; rfl⟩
  · rintro ⟨t, g⟩
    have hw := g.wr
    unfold eff at hw
    rw [isWriter_and, Bool.and_eq_true] at hw
    simp [g.att, g.live, g.act, g.ro, hw.1, hw.2]

/-- A publish outside the acceptance condition has no effect at all: the world (store, loaded topics, sessions), the push
queue, the presence queue and the adapter-call log are unchanged, and the only traffic is one error reply to the requesting session. `hl` leaves out a session
which lists a topic that is not loaded: that publish gets no reply at all (`C01.PubOutcome.silent`). -/
theorem pub_refused_no_effect (c : Ctx) (a : Actor) (tn : TName) (content : String) (head : List (String × String)) (noEcho : Bool)
    (hl : c.w.attached a.sid tn = true → (c.w.live? tn).isSome)
    (h : pubAllowed c.w a tn = false) :
    ∀ c', c' = c.opPub a tn content head noEcho →
    c'.w = c.w ∧ c'.pushes = c.pushes ∧ c'.routed = c.routed ∧ c'.calls = c.calls ∧
    ∃ code, 400 ≤ code ∧ c'.frames = c.frames ++ [(a.sid, ctrl code tn)] := by
  rintro c' rfl
  have o := C01.opPub_outcome c a tn content head noEcho
  generalize c.opPub a tn content head noEcho = r at o ⊢
  cases o with
  | silent hatt hn => rw [hn] at hl; cases hl hatt
  | refused code hc => exact ⟨rfl, rfl, rfl, rfl, code, hc, rfl⟩
  | saved t _ _ g => rw [(allowed_iff_guards c a tn).mpr ⟨t, g⟩] at h; cases h

/-- A publish inside the acceptance condition, with no store failure injected, is accepted: the requesting session gets
`ctrl 202` carrying the next number, the loaded topic's counter moves to that number and the message is in the store. -/
theorem pub_allowed_accepted (c : Ctx) (a : Actor) (tn : TName) (content : String) (head : List (String × String)) (noEcho : Bool)
    (h : pubAllowed c.w a tn = true) (hf : c.failK = 0) :
    ∃ t, c.w.live? tn = some t ∧
      (a.sid, ctrl 202 tn s!" seq={t.lastId + 1}") ∈ (c.opPub a tn content head noEcho).frames ∧
      ((c.opPub a tn content head noEcho).w.live? tn).map (·.lastId) = some (t.lastId + 1) ∧
      ∀ r, c.w.row? tn = some r → ∃ r', (c.opPub a tn content head noEcho).w.row? tn = some r' ∧
        r'.msgs = r.msgs ++ [{ seq := t.lastId + 1, sender := a.uid, head := pubHead a head, content := some content }] := by
  obtain ⟨t, g⟩ := (allowed_iff_guards c a tn).mp h
  obtain ⟨hfr, hl, hr⟩ := C01.opPub_accepted c a tn content head noEcho t g hf
  refine ⟨t, g.live, by rw [hfr]; simp, hl, fun r hr0 => ?_⟩
  obtain ⟨r', hr', _, hm⟩ := hr r hr0
  exact ⟨r', hr', hm⟩

/-- non-vacuity: a state that meets `pubAllowed` -/
example : pubAllowed { sess := [{ sid := "S1", uid := "U1", lvl := .auth, subs := ["T1"] }],
                       live := [{ name := "T1", perUser := [("U1", { want := 0xFF, given := 0xFF })], sessions := [("S1", "U1")] }] }
    { sid := "S1", sessUid := "U1", uid := "U1", lvl := .auth, bg := false } "T1" = true := by decide

end Tinode.Props.C03
