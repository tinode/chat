import TinodeVerif.Gen.AdapterPin
import TinodeVerif.Props.Pin
/-! C07: the adapter functions its store behaviour rests on are the ones which were transcribed and reviewed (see Props/Pin.lean). -/
namespace Tinode.Props.Pin
open Tinode.AdapterPin

theorem C07_store_functions_as_reviewed : pinsFor Tinode.Gen.AdapterPin.pins "C07" = pinsFor expected "C07" := by rfl

end Tinode.Props.Pin
