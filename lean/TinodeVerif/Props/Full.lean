import TinodeVerif.Model.Reach
import TinodeVerif.Props.C01
import TinodeVerif.Props.C08
/-!
Five properties of the group-topic world at full strength - C01, C06, C08, the stored-marks clause of C09, C14 - as statements
about every reachable world (`Reachable`, Model/Reach.lean: any history of requests, each with any single store failure, from any set
of users and sessions). `Reachable.step` takes any `Req`: it does not ask for `Req.actorOk`, so the histories include requests whose
actor no session of the world could produce (a made-up session id, a level the session does not have).

These are **definitions, not theorems**: nothing in the development proves or uses one of them, and no theorem is stated over
`Reachable`. What is proved:
* C01, C06, C14: theorems about one handler at a time (Props/C01.lean, Props/C06.lean, Props/C14.lean); the statement over all
  histories is checked on every generated history by the monitors (vlib/worldmon.py). For C01 there is an induction over histories,
  `C01.history_inv` (Props/C01h.lean), and for the marks of a loaded topic (a clause of C09 which has no definition here)
  `C09.history_marks` (Props/C09h.lean); they run over step types of their own, not over `Req`: `C01.Step` has the publishes, unloads
  and loads of one topic, `C09.Step` the notes and publishes of one loaded topic, each under every fault plan, and none of the other
  requests. Neither is connected to `Reachable`.
* C08 and the stored-marks clause of C09 do **not hold** at full strength: `C08.offline_set_diverges`, `C08.failed_save_diverges`,
  `C08.read_note_diverges` and `C09.read_note_leaves_stored_recv_behind` exhibit (kernel-checked) one request from a small world after
  which the statement fails; the same histories are replayed on the implementation by the world stream and are recorded in
  known_findings.json. The witnesses start from hand-built worlds which are not shown to be `Reachable`, so `¬ C08_full` and
  `¬ C09_stored_full` are not theorems: the kernel does not reduce the handlers composed along a history from an empty world on
  closed terms in reasonable time.
-/
namespace Tinode.Props.Full
open Tinode.World Tinode.Acs

/-- C01: in every reachable world the stored message numbers of every topic increase strictly and never exceed the stored
counter, and a loaded topic's counter lies between the largest stored number and the stored counter -/
def C01_full : Prop :=
  ∀ w, Reachable w → ∀ r ∈ w.store, C01.StoreInv r ∧ ∀ t ∈ w.live, t.name = r.name → C01.LiveInv t r

/-- C06: in every reachable world every group topic that is not deleted has exactly one subscriber whose effective mode has O -/
def C06_full : Prop :=
  ∀ w, Reachable w → ∀ r ∈ w.store, r.state = 0 →
    ((r.subs.filter (fun s => !s.deleted && isOwner (s.want &&& s.given))).length = 1)

/-- a loaded topic against its row: counters and description agree, and every live stored subscription has a cached record with the
same modes, marks and private data -/
def Coherent (t : Topic) (r : TopicRow) : Prop :=
  C08.CoreCoherent t r ∧
  ∀ s ∈ r.subs, s.deleted = false → ∃ p, t.pud? s.user = some p ∧ C08.SubCoherent p s
/-- C08: in every reachable world every loaded, active topic is `Coherent` with its row (the
witnesses against it: `c08_one_step_witness` and its companions in Props/C08.lean) -/
def C08_full : Prop := ∀ w, Reachable w → ∀ t ∈ w.live, t.inactive = false → ∀ r ∈ w.store, r.name = t.name → Coherent t r

/-- C09 (stored marks): in every reachable world 0 ≤ read ≤ recv ≤ seq for every stored subscription (the witness
against it: `C09.read_note_leaves_stored_recv_behind`) -/
def C09_stored_full : Prop :=
  ∀ w, Reachable w → ∀ r ∈ w.store, ∀ s ∈ r.subs, 0 ≤ s.readId ∧ s.readId ≤ s.recvId ∧ s.recvId ≤ r.seq

/-- C14: in every reachable world a session lists a topic iff the topic lists the session -/
def C14_full : Prop :=
  ∀ w, Reachable w → ∀ s ∈ w.sess, ∀ tn, (tn ∈ s.subs ↔ ∃ t ∈ w.live, t.name = tn ∧ ∃ u, (s.sid, u) ∈ t.sessions)

/-- after one {set sub} the stored requested mode and the loaded one differ -/
theorem c08_one_step_witness :
    ((({ w := C08.wW } : Ctx).opSetSub C08.wA2 "T1" "" "JRW").w.row? "T1").map (fun r => r.subs.map (·.want)) = some [0x07] ∧
    ((({ w := C08.wW } : Ctx).opSetSub C08.wA2 "T1" "" "JRW").w.live? "T1").map (fun t => (t.pud "U1").want) = some 0x0F :=
  C08.offline_set_diverges

end Tinode.Props.Full
