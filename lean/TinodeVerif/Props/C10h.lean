import TinodeVerif.Props.C10m
/-!
C10, the exchange between two users' `me` topics carried through the hub's queue (`Ctx.deliverAll`, Model/TopicMe.lean).

`Props/C10m.lean` has the handshake step by step (`procPresReqCore`). Here the steps are composed the way the hub composes them:
one user's announcement "online" is on the queue, addressed to a partner who lists the user as an enabled contact and is listed
as one by the user. Draining the queue - whatever sessions are attached to either `me`, whatever else the world holds - ends with
both contact tables saying "online" about the other side and with an empty queue: the partner has been told, the user has been
answered, and nothing keeps circulating.
-/
namespace Tinode.Props.C10
open Tinode.World Tinode.Acs

/-! ### one message taken off the queue by a `me` topic -/

/-- the news that a subscriber's account is gone is a matter for group topics: a `me` topic handles it like any other status -/
theorem goneMember_me (t : Topic) (p : PresMsg) (h : t.isMe = true) : goneMember t p = false := by
  unfold goneMember Topic.isGrpCat
  simp [h]

theorem putLive_changed (c : Ctx) (t t' : Topic) (hl : c.w.live? t.name = some t) (hn : t'.name = t.name) :
    ∃ w, (if t' ≠ t then c.putLive t' else c) = { c with w := w } ∧
      ∀ k, w.live? k = if k = t.name then some t' else c.w.live? k := by
  by_cases heq : t' = t
  · refine ⟨c.w, if_neg (not_not_intro heq), fun k => ?_⟩
    split
    · next hk => rw [hk, heq, hl]
    · rfl
  · refine ⟨c.w.setLive t', if_pos heq, fun k => ?_⟩
    split
    · next hk => rw [hk, ← hn, live_setLive]
    · next hk => exact live_setLive_other (hn ▸ hk)

/-- A status notification taken off the queue by a `me` topic, in terms of the handshake's result `(t', fwd, reply)`: `t'` takes
the topic's place, the reply joins the queue, and whatever is forwarded to the sessions touches nothing else. -/
theorem deliverOff_me (c : Ctx) (t : Topic) (p : PresMsg) (t' : Topic) (fwd : String) (reply : Option PresMsg)
    (hl : c.w.live? t.name = some t) (hme : t.isMe = true) (hact : t.inactive = false) (hi : p.isInfo = false)
    (hr : procPresReqCore t p.src p.what p.cmd p.wantReply = (t', fwd, reply)) (hn : t'.name = t.name) :
    let c' := c.deliverOff t.name p
    (∀ k, c'.w.live? k = if k = t.name then some t' else c.w.live? k) ∧
    c'.off = c.off ++ reply.toList.map (p.src, ·) ∧ c'.routed = c.routed := by
  unfold Ctx.deliverOff procPresReq
  simp only [hl, hact, goneMember_me t p hme, hi, hr, Bool.false_eq_true, if_false]
  -- every stage is the context before it with one field replaced: the world, then the queue, then the frames
  obtain ⟨w, hA, hw⟩ := putLive_changed c t t' hl hn
  rw [hA]
  have hF : ∀ c0 : Ctx, Sends _ c0 (if t.isMe = true ∧ fwd ≠ "" then c0.forwardOnMe t' p fwd else c0) :=
    fun c0 => ite_ind (fun _ => forwardOnMe_frames t' p fwd c0) fun _ => .refl
  cases reply with
  | none =>
    obtain ⟨fs, h, _⟩ := hF { c with w := w }
    rw [h]
    exact ⟨hw, (List.append_nil _).symm, rfl⟩
  | some r =>
    obtain ⟨fs, h, _⟩ := hF ({ c with w := w }.offq p.src r)
    rw [h]
    exact ⟨hw, rfl, rfl⟩

/-- The resulting context is given a name, `c'`, so that a caller can go on from it: `announce_converges` takes two such turns. -/
theorem deliverOff_status (c : Ctx) (t : Topic) (x what : String) (wr ponl on : Bool) (hw : what = if on then "on" else "off")
    (hl : c.w.live? t.name = some t) (hme : t.isMe = true) (hact : t.inactive = false)
    (hc : psGet t.perSubs x = some (ponl, true)) :
    ∃ c', c.deliverOff t.name { what := what, src := x, wantReply := wr } = c' ∧
      (∀ k, c'.w.live? k = if k = t.name then some { t with perSubs := psSet t.perSubs x (on, true) } else c.w.live? k) ∧
      c'.off = c.off ++ (if (on && wr) = true then [(x, { what := "on", src := t.name, wantReply := false })] else []) ∧
      c'.routed = c.routed := by
  have h := deliverOff_me c t { what := what, src := x, wantReply := wr } _ _ _ hl hme hact rfl
    (procPresReqCore_status t x what wr ponl true on hw hme hact hc) rfl
  refine ⟨_, rfl, h.1, h.2.1.trans ?_, h.2.2⟩
  cases on <;> cases wr <;> rfl

/-- one "online" taken off the queue by a `me` topic which lists the sender as an enabled contact, without reference to
`procPresReqCore`: the table says online about the sender and is otherwise as it was, no other topic is touched, and the answer is
queued iff it was asked for -/
theorem deliverOff_on (c : Ctx) (t : Topic) (x : String) (wr ponl : Bool)
    (hl : c.w.live? t.name = some t) (hme : t.isMe = true) (hact : t.inactive = false)
    (hc : psGet t.perSubs x = some (ponl, true)) :
    let c' := c.deliverOff t.name { what := "on", src := x, wantReply := wr }
    (∃ t', c'.w.live? t.name = some t' ∧ t'.name = t.name ∧ t'.isMe = true ∧ t'.inactive = false ∧
        psGet t'.perSubs x = some (true, true) ∧ (∀ y, y ≠ x → psGet t'.perSubs y = psGet t.perSubs y)) ∧
    (∀ k, k ≠ t.name → c'.w.live? k = c.w.live? k) ∧
    c'.off = c.off ++ (if wr then [(x, { what := "on", src := t.name, wantReply := false })] else []) ∧
    c'.routed = c.routed := by
  obtain ⟨_, rfl, h⟩ := deliverOff_status c t x "on" wr ponl true rfl hl hme hact hc
  exact ⟨⟨_, (h.1 _).trans (if_pos rfl), rfl, hme, hact, psGet_psSet_self .., fun y => psGet_psSet_other _ _ y _⟩,
    fun k hk => (h.1 k).trans (if_neg hk), h.2⟩

/-- one "offline" taken off the queue by a `me` topic which lists the sender as an enabled contact: the table says offline, nothing
is answered -/
theorem deliverOff_off (c : Ctx) (t : Topic) (x : String) (ponl : Bool)
    (hl : c.w.live? t.name = some t) (hme : t.isMe = true) (hact : t.inactive = false)
    (hc : psGet t.perSubs x = some (ponl, true)) :
    let c' := c.deliverOff t.name { what := "off", src := x }
    (∃ t', c'.w.live? t.name = some t' ∧ psGet t'.perSubs x = some (false, true)) ∧ c'.off = c.off ∧ c'.routed = c.routed := by
  obtain ⟨_, rfl, h⟩ := deliverOff_status c t x "off" false ponl false rfl hl hme hact hc
  exact ⟨⟨_, (h.1 _).trans (if_pos rfl), psGet_psSet_self ..⟩, h.2.1.trans (List.append_nil _), h.2.2⟩

/-! ### the hub's loop, one turn at a time, while nothing is routed inside a topic -/

theorem deliverRouted_nil (c : Ctx) (h : c.routed = []) : c.deliverRouted = c := by
  unfold Ctx.deliverRouted
  rw [h]
  show ({ c with routed := [] } : Ctx) = c
  rw [← h]

theorem deliverAllFuel_cons (n : Nat) (c : Ctx) (rcpt : TName) (p : PresMsg) (rest : List (TName × PresMsg))
    (hr : c.routed = []) (ho : c.off = (rcpt, p) :: rest) :
    Ctx.deliverAllFuel (n + 1) c = Ctx.deliverAllFuel n ({ c with off := rest }.deliverOff rcpt p) := by
  rw [Ctx.deliverAllFuel, deliverRouted_nil c hr]
  simp only [ho]

theorem deliverAllFuel_nil (n : Nat) (c : Ctx) (hr : c.routed = []) (ho : c.off = []) : Ctx.deliverAllFuel (n + 1) c = c := by
  rw [Ctx.deliverAllFuel, deliverRouted_nil c hr]
  simp only [ho]

/-- X's "online" (asking for an answer) is on the queue for O; O and X list each other as enabled contacts. After the hub has
drained the queue both tables say online about the other side, and the queue is empty. -/
theorem announce_converges (c : Ctx) (tO tX : Topic) (o1 o2 : Bool)
    (hne : tO.name ≠ tX.name)
    (hlO : c.w.live? tO.name = some tO) (hlX : c.w.live? tX.name = some tX)
    (hO : tO.isMe = true ∧ tO.inactive = false) (hX : tX.isMe = true ∧ tX.inactive = false)
    (hcO : psGet tO.perSubs tX.name = some (o1, true)) (hcX : psGet tX.perSubs tO.name = some (o2, true))
    (hr : c.routed = []) (hoff : c.off = [(tO.name, { what := "on", src := tX.name, wantReply := true })]) :
    (∃ t, c.deliverAll.w.live? tO.name = some t ∧ psGet t.perSubs tX.name = some (true, true)) ∧
    (∃ t, c.deliverAll.w.live? tX.name = some t ∧ psGet t.perSubs tO.name = some (true, true)) ∧
    c.deliverAll.off = [] := by
  -- first turn: the message at O, which answers; second turn: the answer at X, which asks for nothing; then nothing is left
  obtain ⟨c1, e1, hw1, ho1, hr1⟩ := deliverOff_status { c with off := [] } tO tX.name "on" true o1 true rfl hlO hO.1 hO.2 hcO
  obtain ⟨c2, e2, hw2, ho2, hr2⟩ := deliverOff_status { c1 with off := [] } tX tO.name "on" false o2 true rfl
    ((hw1 _).trans ((if_neg (Ne.symm hne)).trans hlX)) hX.1 hX.2 hcX
  replace hr1 := hr1.trans hr
  rw [Ctx.deliverAll, deliverAllFuel_cons _ c _ _ _ hr hoff, e1, deliverAllFuel_cons _ c1 _ _ _ hr1 ho1, e2,
    deliverAllFuel_nil _ c2 (hr2.trans hr1) ho2]
  exact ⟨⟨_, (hw2 _).trans ((if_neg hne).trans ((hw1 _).trans (if_pos rfl))), psGet_psSet_self ..⟩,
    ⟨_, (hw2 _).trans (if_pos rfl), psGet_psSet_self ..⟩, ho2⟩

/-- X has gone offline (its `me` topic was unloaded: "off" is on the queue for every contact, `users_of_interest_complete`); O,
who lists X as an enabled contact, ends up with a table that says offline, and the queue is empty -/
theorem going_offline_converges (c : Ctx) (tO : Topic) (x : String) (o1 : Bool)
    (hlO : c.w.live? tO.name = some tO) (hO : tO.isMe = true ∧ tO.inactive = false)
    (hcO : psGet tO.perSubs x = some (o1, true))
    (hr : c.routed = []) (hoff : c.off = [(tO.name, { what := "off", src := x })]) :
    (∃ t, c.deliverAll.w.live? tO.name = some t ∧ psGet t.perSubs x = some (false, true)) ∧ c.deliverAll.off = [] := by
  have s1 := deliverOff_off { c with off := [] } tO x o1 hlO hO.1 hO.2 hcO
  rw [Ctx.deliverAll, deliverAllFuel_cons _ c _ _ _ hr hoff, deliverAllFuel_nil _ _ (s1.2.2.trans hr) s1.2.1]
  exact ⟨s1.1, s1.2.1⟩

/-! ### telling the contacts: idle unload, going invisible, becoming visible again -/

theorem presUsersOfInterest_tells (c : Ctx) (t : Topic) (what cmd n : String) (o e : Bool)
    (hm : (n, o, e) ∈ t.perSubs) (hn : (notifyOnOrSkip n what o).isSome = true) :
    (n, { what := what, cmd := cmd, src := t.name, wantReply := what = "on" }) ∈ (c.presUsersOfInterest t what cmd).1.off :=
  users_of_interest_complete c t what _ _ n o e hm hn cmd

theorem foldl_off {α : Type} (f : Ctx → α → Ctx) (hf : ∀ c x, (f c x).off = c.off) (l : List α) (c : Ctx) :
    (l.foldl f c).off = c.off :=
  List.foldlRecOn (motive := fun c' => c'.off = c.off) l f rfl fun c' h x _ => (hf c' x).trans h

theorem terminateTopic_off (c : Ctx) (t : Topic) : (c.terminateTopic t).off = c.off := by
  unfold Ctx.terminateTopic
  apply foldl_off
  intro _ _
  rfl

/-- when a user's `me` topic is unloaded (no session is attached any more), "offline" is put on the queue for every contact the
topic may tell: the p2p partners' `me` topics, the groups and the user's own `fnd` (`notifyOnOrSkip` leaves out channels) -/
theorem unload_me_tells_contacts (c : Ctx) (tn : TName) (t : Topic) (hl : c.w.live? tn = some t) (hs : t.sessions = [])
    (n : String) (o e : Bool) (hm : (n, o, e) ∈ t.perSubs) (hn : (notifyOnOrSkip n "off" o).isSome = true) :
    (n, { what := "off", src := t.name }) ∈ (c.opUnloadMe tn).1.off := by
  unfold Ctx.opUnloadMe
  simp only [hl, hs, List.isEmpty_nil, Bool.not_true, Bool.false_eq_true, if_false]
  rw [terminateTopic_off]
  exact presUsersOfInterest_tells c t "off" "" n o e hm hn

theorem call_off (c : Ctx) (name : String) (eff : World → World) : (c.call name eff).1.off = c.off := by
  rw [call_fst]

/-- the `failK = 0` instance of the first half of `World.call_ok`, which this name shadows inside the namespace -/
theorem call_ok (c : Ctx) (name : String) (eff : World → World) (h : c.failK = 0) : (c.call name eff).2 = true :=
  (Tinode.World.call_ok c name eff (Or.inl h)).1

theorem presDirect_off (c : Ctx) (t : Topic) (p : PresMsg) : (c.presDirect t p).off = c.off := by
  unfold Ctx.presDirect
  apply foldl_off
  intro c ⟨sid, uid⟩
  -- the queue of every branch of the step is that of `c`
  simp only [apply_ite Ctx.off, Ctx.emit, ite_self]

theorem evictMe_off (c : Ctx) (t : Topic) (u : Uid) (skip : Sid) : (c.evictMe t u skip).1.off = c.off := by
  unfold Ctx.evictMe
  apply foldl_off
  intro c ⟨sid, uid⟩
  simp only [apply_ite Ctx.off, Ctx.emit, ite_self]

/-- A user who takes presence permission out of the own subscription to `me` becomes invisible: every contact the topic may tell is
told "offline" together with the command to stop listening (`off+dis`), whatever else the change brings about. -/
theorem going_invisible_tells_contacts (c : Ctx) (t : Topic) (a : Actor) (ud : PUD) (oldWant oldGiven : Mode)
    (hold : isPresencer (oldWant &&& oldGiven) = true) (hnew : isPresencer (eff ud) = false)
    (n : String) (o e : Bool) (hm : (n, o, e) ∈ t.perSubs) (hn : (notifyOnOrSkip n "off" o).isSome = true) :
    (n, { what := "off", cmd := "dis", src := t.name }) ∈ (c.meModeChanged t a ud oldWant oldGiven).1.off := by
  have h1 := presUsersOfInterest_tells c t "off" "dis" n o e hm hn
  -- a user without P is not announced again
  have hh : hearsPres (eff ud) = false := by unfold hearsPres; rw [hnew]; rfl
  unfold Ctx.meModeChanged
  simp only [hold, hnew, hh, Bool.not_false, and_self, if_true, Bool.false_eq_true, false_and, if_false]
  by_cases hch : oldWant ≠ ud.want ∨ oldGiven ≠ ud.given
  · -- the mode did change: the user's other sessions see the new mode
    rw [if_pos hch, presDirect_off]
    exact h1
  · rw [if_neg hch]
    exact h1

/-- A user who gets presence permission on `me` back is announced again: every contact the topic may tell is told "online" with the
command to listen (`on+en`), asking for an answer. -/
theorem becoming_visible_tells_contacts (c : Ctx) (t : Topic) (a : Actor) (ud : PUD) (oldWant oldGiven : Mode)
    (hold : hearsPres (oldWant &&& oldGiven) = false) (hnew : hearsPres (eff ud) = true)
    (hch : oldWant ≠ ud.want ∨ oldGiven ≠ ud.given)
    (n : String) (o e : Bool) (hm : (n, o, e) ∈ (t.setPud a.uid ud).perSubs) (hn : (notifyOnOrSkip n "on" o).isSome = true)
    (hp : isPresencer (oldWant &&& oldGiven) = false) :
    (n, { what := "on", cmd := "en", src := t.name, wantReply := true }) ∈ (c.meModeChanged t a ud oldWant oldGiven).1.off := by
  unfold Ctx.meModeChanged
  simp only [hp, Bool.false_eq_true, false_and, if_false, hch, if_true, hnew, hold, Bool.not_false, and_self]
  rw [presDirect_off]
  exact presUsersOfInterest_tells c (t.setPud a.uid ud) "on" "en" n o e hm hn

/-- the premises are met by a concrete world: two users on `me`, each listing the other as an enabled contact last seen offline -/
example :
    let tO : Topic := { name := "U1", isMe := true, perSubs := [("U2", false, true)] }
    let tX : Topic := { name := "U2", isMe := true, perSubs := [("U1", false, true)] }
    let c : Ctx := { w := { live := [tO, tX] }, off := [("U1", { what := "on", src := "U2", wantReply := true })] }
    c.w.live? "U1" = some tO ∧ c.w.live? "U2" = some tX ∧ psGet tO.perSubs "U2" = some (false, true) ∧
      psGet tX.perSubs "U1" = some (false, true) := by
  simp [World.live?, psGet]

end Tinode.Props.C10
