import TinodeVerif.Proofs.World
/-!
C10 (the part carried by group topics) — presence is delivered only to subscribers with presence permission; the count of
a user's online sessions follows the attached foreground sessions.

`passesPres`, `Ctx.deliverRouted`, `Ctx.presDirect` (Model/TopicGrp.lean) transcribe passesPresenceFilters, the {pres}
branch of broadcastToSessions and presSubsOnlineDirect; `Ctx.opLeave`, `Ctx.opFg` carry the online accounting. What goes to
the users' `me` topics (who is addressed, who was last told online or offline) is in Props/C10m.lean and Props/C10h.lean. The theorems here
are about `deliverRouted` (`presRcpt` is ITS list of recipients); `presDirect` filters by `presOfflineFilter` and `deleted` instead and has no theorem
but `presDirect_off` (Props/C10h.lean).
-/
namespace Tinode.Props.C10
open Tinode.World Tinode.Acs

/-- presence passes to a user iff the effective mode has P - or the notice is a permission change or a removal, which are
delivered regardless - and the sender's include/exclude filters agree -/
theorem passes_iff (t : Topic) (what : String) (fin fout : Mode) (u : Uid) :
    passesPres t what fin fout u = true ↔
      (isPresencer (eff (t.pud u)) = true ∨ what = "gone" ∨ what = "acs") ∧
      (fin = 0 ∨ eff (t.pud u) &&& fin ≠ 0) ∧ (fout = 0 ∨ eff (t.pud u) &&& fout = 0) := by
  unfold passesPres
  simp only [Bool.and_eq_true, Bool.or_eq_true, decide_eq_true_eq, ne_eq, and_assoc, or_assoc]

/-- ordinary presence (on, off, msg, read, recv, upd, del, ...) is never delivered to a user without P -/
theorem no_presence_without_P (t : Topic) (what : String) (fin fout : Mode) (u : Uid)
    (hw : what ≠ "gone" ∧ what ≠ "acs") (hp : isPresencer (eff (t.pud u)) = false) : passesPres t what fin fout u = false := by
  cases h : passesPres t what fin fout u with
  | false => rfl
  | true =>
    have := (passes_iff t what fin fout u).mp h
    rcases this.1 with h1 | h1 | h1
    · rw [hp] at h1; cases h1
    · exact absurd h1 hw.1
    · exact absurd h1 hw.2

/-- one routed presence message, delivered to one loaded topic: the sessions that get it -/
def presRcpt (t : Topic) (p : PresMsg) : List (Sid × Uid) :=
  t.sessions.filter (fun (sid, uid) =>
    !(decide (sid = p.skipSid) || (decide (p.singleUser ≠ "") && decide (uid ≠ p.singleUser)) ||
      (decide (p.excludeUser ≠ "") && decide (uid = p.excludeUser)) || !passesPres t p.what p.filterIn p.filterOut uid))

theorem mem_presRcpt (t : Topic) (p : PresMsg) (sid : Sid) (uid : Uid) :
    (sid, uid) ∈ presRcpt t p ↔ (sid, uid) ∈ t.sessions ∧ sid ≠ p.skipSid ∧ (p.singleUser ≠ "" → uid = p.singleUser) ∧
      (p.excludeUser ≠ "" → uid ≠ p.excludeUser) ∧ passesPres t p.what p.filterIn p.filterOut uid = true := by
  unfold presRcpt
  simp only [List.mem_filter, Bool.not_eq_true', Bool.or_eq_false_iff, Bool.and_eq_false_imp, decide_eq_false_iff_not,
    decide_eq_true_eq, Bool.not_eq_false', ne_eq, and_assoc, Decidable.not_not]

theorem pres_recipient (t : Topic) (p : PresMsg) (sid : Sid) (uid : Uid) (h : (sid, uid) ∈ presRcpt t p) :
    (sid, uid) ∈ t.sessions ∧ sid ≠ p.skipSid ∧ passesPres t p.what p.filterIn p.filterOut uid = true := by
  have h := (mem_presRcpt t p sid uid).mp h
  exact ⟨h.1, h.2.1, h.2.2.2.2⟩

theorem deliver_one (c : Ctx) (tn : TName) (p : PresMsg) (t : Topic) (hr : c.routed = [(tn, p)]) (hl : c.w.live? tn = some t)
    (ha : t.inactive = false) :
    c.deliverRouted.frames = c.frames ++ (presRcpt t p).map (fun x => (x.1, presFrame t.name p)) := by
  unfold Ctx.deliverRouted
  simp only [hr, List.foldl_cons, List.foldl_nil, hl, ha, Bool.false_eq_true, if_false]
  refine congrArg Ctx.frames (foldl_emit t.sessions (·.1) (presFrame t.name p) (fun c ⟨sid, uid⟩ => ?_) { c with routed := [] })
  -- the guards of the step one at a time: each that holds makes the condition of `presRcpt` false
  by_cases h1 : sid = p.skipSid
  · simp [h1]
  by_cases h2 : p.singleUser ≠ "" ∧ uid ≠ p.singleUser
  · simp [h1, h2]
  by_cases h3 : p.excludeUser ≠ "" ∧ uid = p.excludeUser
  · simp [h1, h3]
  cases h4 : passesPres t p.what p.filterIn p.filterOut uid <;> simp [h1, h2, h3, h4]

/-- the update of the online count in `Ctx.opLeave` (Model/TopicReq.lean), taken by itself: one less for a foreground session,
unchanged for a background one. That the count equals the number of attached foreground sessions is checked by the C10 monitor on
histories. -/
theorem leave_decrements_once (p : PUD) (bg : Bool) :
    (if !bg then { p with online := p.online - 1 } else p).online = p.online - (if bg then 0 else 1) := by
  cases bg <;> simp

example : passesPres { name := "T1", perUser := [("U1", { want := 0x0F, given := 0x0F })] } "on" modeRead 0 "U1" = true := by decide
example : passesPres { name := "T1", perUser := [("U1", { want := 0x07, given := 0x07 })] } "on" modeRead 0 "U1" = false := by decide
example : passesPres { name := "T1", perUser := [("U1", { want := 0x07, given := 0x07 })] } "acs" 0 0 "U1" = true := by decide

end Tinode.Props.C10
