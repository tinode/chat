import TinodeVerif.Props.C01
import TinodeVerif.Props.C09
import TinodeVerif.Props.C14
import TinodeVerif.Model.Preview
/-!
C13 (the part a model can carry) — every request other than a note is answered; ill-formed or non-existent topic names get
an answer (an error code, or 304 "no action" for a deletion), not silence.

"Never terminates the server process" is a statement about the Go runtime: it is decided by the world stream itself (every
generated request, including requests addressed to names that were never issued, to deleted topics and from sessions that
are not attached, is run through the real Session.dispatch / Hub / Topic code; a panic is reported with the history that
caused it - this is how the hub panic on {del topic} for an ill-formed name was found and fixed). The theorems below are
about the reply obligation of the transcribed handlers.
-/
namespace Tinode.Props.C13
open Tinode.World

theorem saveMessage_frames (c : Ctx) (tn : TName) (m : MsgRow) (rbs : Bool) : (c.saveMessage tn m rbs).1.frames = c.frames :=
  (saveMessage_spec (c1 := (c.saveMessage tn m rbs).1) (res := (c.saveMessage tn m rbs).2) rfl).1.frames

/-- A publish is always answered, whatever the state and whatever store call fails: the first frame produced by the request
goes to the requesting session (an error, or the acknowledgement). The only silent case - the session lists a topic which is
not loaded - is excluded by the attachment invariant the C14 monitor checks. -/
theorem pub_always_answered (c : Ctx) (a : Actor) (tn : TName) (content : String) (head : List (String × String)) (noEcho : Bool)
    (hl : c.w.attached a.sid tn = true → (c.w.live? tn).isSome) :
    ∃ f rest, (c.opPub a tn content head noEcho).frames = c.frames ++ (a.sid, f) :: rest := by
  have o := C01.opPub_outcome c a tn content head noEcho
  generalize c.opPub a tn content head noEcho = r at o ⊢
  cases o with
  | silent hatt hn => rw [hn] at hl; cases hl hatt
  | refused code => exact ⟨ctrl code tn, [], rfl⟩
  | saved t c1 res _ hsv =>
    have hfr := (saveMessage_spec hsv).1.frames
    cases res with
    | none => exact ⟨ctrl 500 tn, [], by rw [emit_frames, hfr]⟩
    | some mk => exact ⟨_, _, by rw [(deliverPub_eq ..).2.1, hfr, List.append_assoc]; rfl⟩

/-- {del what=topic} for a name which is neither loaded nor stored - an ill-formed name, a name never issued - is answered
(304 no action, or 500 when the lookup fails). The code as found panicked in the hub here (one of the repaired crashes, DESIGN A5). -/
theorem del_unknown_topic_answered (c : Ctx) (a : Actor) (tn : TName) (hard : Bool)
    (hl : c.w.live? tn = none) (hr : c.w.row? tn = none) :
    ∃ code, (c.opDelTopic a tn hard).frames = c.frames ++ [(a.sid, ctrl code tn)] := by
  unfold Ctx.opDelTopic
  simp only [hl]
  rcases hcall : c.call "SubsForTopic" with ⟨c1, ok⟩
  obtain ⟨hw, hf⟩ := call_reads hcall
  rw [← hw] at hr
  cases ok
  · exact ⟨500, by simp [hf]⟩
  · refine ⟨304, ?_⟩
    simp only [Bool.not_true, Bool.false_eq_true, if_false, hr, Option.map_none, Option.getD_none, List.filter_nil, List.isEmpty_nil, if_true]
    split <;> simp [hf]

/-- a note is the one request kind that may stay unanswered -/
theorem invalid_note_silent (c : Ctx) (a : Actor) (tn : TName) (what : String) (q : Int) (h : noteValid what q = false) :
    (c.opNote a tn what q).frames = c.frames := by
  rw [C09.invalid_note_no_effect c a tn what q h]

/-- NOT true: every {leave} is answered - see `C14.root_leave_on_behalf_unanswered` (known finding root-leave-obo) -/
theorem leave_unanswered_witness :
    (({ w := { sess := [C14.wS], live := [C14.wT] } } : Ctx).opLeave C14.wA "T1" false).frames = [] :=
  C14.root_leave_on_behalf_unanswered

/-! ### message content rendered into a push preview (push/fcm/payload.go:46-58) -/
open Tinode.Preview in
theorem preview_short_unchanged (bs : List Nat) (h : bs.length ≤ maxLen) : preview bs = bs := by
  unfold preview
  have : ¬ bs.length > maxLen := by omega
  simp [this]

open Tinode.Preview in
theorem preview_few_runes_unchanged (bs : List Nat) (h : (decode bs).length ≤ maxLen) : preview bs = bs := by
  unfold preview
  split
  · have : ¬ (decode bs).length > maxLen := by omega
    simp [this]
  · rfl

open Tinode.Preview in
/-- the preview is the first 128 runes - the slice is always within bounds - re-encoded, plus an ellipsis -/
theorem preview_long_cut (bs : List Nat) (h1 : bs.length > maxLen) (h2 : (decode bs).length > maxLen) :
    preview bs = encode ((decode bs).take maxLen) ++ ellipsis ∧ ((decode bs).take maxLen).length = maxLen := by
  unfold preview
  rw [if_pos h1]
  simp only [h2, if_true]
  exact ⟨trivial, by rw [List.length_take]; omega⟩

open Tinode.Preview in
theorem preview_cases (bs : List Nat) :
    preview bs = bs ∨ (preview bs = encode ((decode bs).take maxLen) ++ ellipsis ∧ (decode bs).length > maxLen) := by
  by_cases h1 : bs.length > maxLen
  · by_cases h2 : (decode bs).length > maxLen
    · exact Or.inr ⟨(preview_long_cut bs h1 h2).1, h2⟩
    · exact Or.inl (preview_few_runes_unchanged bs (by omega))
  · exact Or.inl (preview_short_unchanged bs (by omega))

example : Tinode.Preview.decode [0xD0, 0x96, 0x41, 0xFF, 0xE2, 0x82, 0xAC, 0xF0, 0x9F, 0x98, 0x80] = [0x416, 0x41, 0xFFFD, 0x20AC, 0x1F600] := by decide

end Tinode.Props.C13
