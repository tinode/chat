import TinodeVerif.Gen.AdapterPin
import TinodeVerif.Props.Pin
/-! C16: the adapter functions its store behaviour rests on are the ones which were transcribed and reviewed (see Props/Pin.lean). -/
namespace Tinode.Props.Pin
open Tinode.AdapterPin

theorem C16_store_functions_as_reviewed : pinsFor Tinode.Gen.AdapterPin.pins "C16" = pinsFor expected "C16" := by rfl

end Tinode.Props.Pin
