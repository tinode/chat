import TinodeVerif.Model.AdapterPin
/-!
The store behaviour the models assume was read off the SQL adapters, MySQL first. PostgreSQL was read against it: the same
statements, apart from the SAVEPOINTs of its `createSubscription` and from places where, by the text of the code (no PostgreSQL was run), it fails:
`removeTags` and the soft `TopicDelete` pass their argument list unspread; `FindUsers` / `FindTopics` with optional terms only and `activeOnly`
false get an argument `expandQuery` has not flattened; `PCacheUpsert` without failOnDuplicate sends `REPLACE INTO`; after a duplicate in `addTags` the
transaction is aborted for want of a SAVEPOINT. The in-memory adapter follows MySQL there. The
in-memory adapter of the harness and the store part of the world model are transcriptions of these functions. The transcription is
part of the trusted base; what these theorems add is that it cannot go stale unnoticed: the fingerprints of the adapter functions
are regenerated from /repo on every run (`Gen/AdapterPin.lean`) and each theorem - one per property, in its own module
`Props/PinCxx.lean`, so that a check builds only its own - says that the functions one property rests on are
the ones which were transcribed and reviewed (`Model/AdapterPin.lean`). A theorem which stops checking names a function whose text
changed; whether the change breaks the property cannot be shown by running the in-memory adapter (the check reports
`no-failing-input-found`) - the replay names the function.

The per-property theorems are proved by `rfl`: string literals are compared as literals, so on an unchanged adapter the two tables
are found equal without `pinsFor` being run at all, and after a change elsewhere in the adapters only the names have to be decoded.
`decide` decodes every string it touches into bytes first, which is what makes evaluation over these tables slow; the theorem below
needs it, and `+kernel` at least leaves out the elaborator's own run of the same evaluation.
-/
namespace Tinode.Props.Pin
open Tinode.AdapterPin

/-- every property's list names functions which exist in both adapters (a misspelt name would pin nothing) -/
theorem lists_name_existing_functions :
    ∀ p ∈ ["C01", "C04", "C06", "C07", "C08", "C09", "C10", "C11", "C12", "C14", "C16", "C18", "C19", "C20"],
      ∀ f ∈ fnsOf p, (expected.any (fun e => e.1 = "mysql" ∧ e.2.1 = f)) = true ∧ (expected.any (fun e => e.1 = "postgres" ∧ e.2.1 = f)) = true := by
  decide +kernel

end Tinode.Props.Pin
