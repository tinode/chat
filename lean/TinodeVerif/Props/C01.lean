import TinodeVerif.Proofs.Pub
import TinodeVerif.Proofs.Guards
/-!
C01 — per-topic message numbers are unique, gapless and follow acceptance order.

`Ctx.opPub` is the transcription of the publish path; `loadTopic` of the load path.
-/
namespace Tinode.Props.C01
open Tinode.World Tinode.Acs

/-- the guards of an accepted publish (C03 proves they are exactly the acceptance condition) -/
structure Guards (c : Ctx) (a : Actor) (tn : TName) (t : Topic) : Prop where
  att : c.w.attached a.sid tn = true
  live : c.w.live? tn = some t
  act : t.inactive = false
  ro : t.readOnly = false
  wr : isWriter (eff (t.pud a.uid)) = true

inductive PubOutcome (c : Ctx) (a : Actor) (tn : TName) (content : String) (head : List (String × String)) (noEcho : Bool) : Ctx → Prop
  | silent : c.w.attached a.sid tn = true → c.w.live? tn = none → PubOutcome c a tn content head noEcho c
  | refused (code : Nat) : 400 ≤ code → (∀ t, ¬Guards c a tn t) →
      PubOutcome c a tn content head noEcho (c.emit a.sid (ctrl code tn))
  | saved (t : Topic) (c1 : Ctx) (res : Option Bool) : Guards c a tn t →
      c.saveMessage tn { seq := t.lastId + 1, sender := a.uid, head := pubHead a head, content := some content }
        (isReader (eff (t.pud a.uid)) && decide (a.uid ≠ "")) = (c1, res) →
      PubOutcome c a tn content head noEcho (match res with
        | none => c1.emit a.sid (ctrl 500 tn)
        | some mk => c1.deliverPub t a { seq := t.lastId + 1, sender := a.uid, head := pubHead a head, content := some content } mk noEcho)

theorem opPub_outcome (c : Ctx) (a : Actor) (tn : TName) (content : String) (head : List (String × String)) (noEcho : Bool) :
    PubOutcome c a tn content head noEcho (c.opPub a tn content head noEcho) := by
  unfold Ctx.opPub
  refine ite_ind (fun h => .refused 409 (by omega) fun t g => by simp [g.att] at h) fun hatt => ?_
  rw [Bool.not_eq_true, Bool.not_eq_false'] at hatt
  split
  · exact .silent hatt ‹_›
  next t hl =>
  have only : ∀ {t'}, Guards c a tn t' → t' = t := fun g => Option.some.inj (g.live.symm.trans hl)
  refine ite_ind (fun h => .refused 503 (by omega) fun t' g => by rw [only g] at g; simp [g.act] at h) fun hact => ?_
  refine ite_ind (fun h => .refused 403 (by omega) fun t' g => by rw [only g] at g; simp [g.ro] at h) fun hro => ?_
  extract_lets pud
  refine ite_ind (fun h => .refused 403 (by omega) fun t' g => by rw [only g] at g; simp [pud, g.wr] at h) fun hw => ?_
  split
  next c1 res hs =>
  exact .saved t c1 res ⟨hatt, hl, by simpa using hact, by simpa using hro, by simpa using hw⟩ hs

theorem Guards.opPub_eq {c : Ctx} {a : Actor} {tn : TName} {t : Topic} (g : Guards c a tn t) (content : String)
    (head : List (String × String)) (noEcho : Bool) :
    c.opPub a tn content head noEcho =
      (match c.saveMessage tn { seq := t.lastId + 1, sender := a.uid, head := pubHead a head, content := some content }
          (isReader (eff (t.pud a.uid)) && decide (a.uid ≠ "")) with
        | (c1, none) => c1.emit a.sid (ctrl 500 tn)
        | (c1, some marked) => c1.deliverPub t a { seq := t.lastId + 1, sender := a.uid, head := pubHead a head, content := some content } marked noEcho) := by
  have o := opPub_outcome c a tn content head noEcho
  generalize c.opPub a tn content head noEcho = r at o ⊢
  cases o with
  | silent _ hl => cases hl ▸ g.live
  | refused _ _ h => exact (h t g).elim
  | saved t' c1 res g' hs =>
    cases Option.some.inj (g'.live.symm.trans g.live)
    rw [hs]
    cases res <;> rfl

theorem opPub_w_of_no_guards {c : Ctx} {a : Actor} {tn : TName} (h : ∀ t, ¬Guards c a tn t) (content : String)
    (head : List (String × String)) (noEcho : Bool) : (c.opPub a tn content head noEcho).w = c.w := by
  have o := opPub_outcome c a tn content head noEcho
  generalize c.opPub a tn content head noEcho = r at o ⊢
  cases o with
  | silent => rfl
  | refused => rfl
  | saved t _ _ g => exact (h t g).elim

theorem opPub_accepted (c : Ctx) (a : Actor) (tn : TName) (content : String) (head : List (String × String)) (noEcho : Bool)
    (t : Topic) (g : Guards c a tn t) (hf : c.failK = 0) :
    (c.opPub a tn content head noEcho).frames = c.frames ++ [(a.sid, ctrl 202 tn s!" seq={t.lastId + 1}")] ++
        (dataRcpt t (if noEcho then a.sid else "")).map
          (fun x => (x.1, dataFrame tn a.uid (t.lastId + 1) (pubHead a head) (some content))) ∧
    ((c.opPub a tn content head noEcho).w.live? tn).map (·.lastId) = some (t.lastId + 1) ∧
    ∀ r, c.w.row? tn = some r → ∃ r', (c.opPub a tn content head noEcho).w.row? tn = some r' ∧ r'.seq = t.lastId + 1 ∧
      r'.msgs = r.msgs ++ [{ seq := t.lastId + 1, sender := a.uid, head := pubHead a head, content := some content }] := by
  obtain ⟨c1, mk, hs⟩ := saveMessage_succeeds c tn { seq := t.lastId + 1, sender := a.uid, head := pubHead a head, content := some content }
    (isReader (eff (t.pud a.uid)) && decide (a.uid ≠ "")) hf
  have hok := saveMessage_some hs
  have htn := live_name g.live
  rw [g.opPub_eq, hs]
  refine ⟨by rw [(deliverPub_eq ..).2.1, htn, hok.frames], ?_, fun r hr => ?_⟩
  · rw [← htn, deliverPub_live, Option.map_some, pubTopic_lastId]
  · obtain ⟨r', hr', hq, hm, _⟩ := hok.row r hr
    exact ⟨r', by rw [(deliverPub_eq ..).1]; exact hr', hq, hm⟩

/-- An accepted publish gets the number `lastId + 1`: that number is in the acknowledgement, in every copy delivered (the
frames added are exactly the acknowledgement followed by the copies), in the loaded topic's counter, in the stored counter
and in the stored message, which is appended after all earlier ones. -/
theorem accepted_number (c : Ctx) (a : Actor) (tn : TName) (content : String) (head : List (String × String)) (noEcho : Bool)
    (t : Topic) (r : TopicRow) (g : Guards c a tn t) (hrow : c.w.row? tn = some r) (hf : c.failK = 0) :
    let c' := c.opPub a tn content head noEcho
    let q := t.lastId + 1
    c'.frames = c.frames ++ [(a.sid, ctrl 202 tn s!" seq={q}")] ++
        (dataRcpt t (if noEcho then a.sid else "")).map (fun x => (x.1, dataFrame tn a.uid q (pubHead a head) (some content))) ∧
    (c'.w.live? tn).map (·.lastId) = some q ∧
    ∃ r', c'.w.row? tn = some r' ∧ r'.seq = q ∧
      r'.msgs = r.msgs ++ [{ seq := q, sender := a.uid, head := pubHead a head, content := some content }] := by
  obtain ⟨hfr, hl, hr⟩ := opPub_accepted c a tn content head noEcho t g hf
  exact ⟨hfr, hl, hr r hrow⟩

/-- A publish whose save fails - whichever store call fails - is answered with an error only; the loaded topic (its counter
included), the sessions and the stored messages are untouched, so the next publish is offered the same number again. -/
theorem failed_save_consumes_nothing_in_memory (c : Ctx) (a : Actor) (tn : TName) (content : String) (head : List (String × String))
    (noEcho : Bool) (t : Topic) (g : Guards c a tn t) (c1 : Ctx)
    (hfail : c.saveMessage tn { seq := t.lastId + 1, sender := a.uid, head := pubHead a head, content := some content }
      (isReader (eff (t.pud a.uid)) && decide (a.uid ≠ "")) = (c1, none)) :
    let c' := c.opPub a tn content head noEcho
    c'.frames = c.frames ++ [(a.sid, ctrl 500 tn)] ∧ c'.pushes = c.pushes ∧ c'.w.live? tn = some t ∧ c'.w.sess = c.w.sess ∧
    ∀ r, c.w.row? tn = some r → ∃ r', c'.w.row? tn = some r' ∧ r'.msgs = r.msgs ∧ (r'.seq = r.seq ∨ r'.seq = t.lastId + 1) := by
  rw [g.opPub_eq, hfail]
  obtain ⟨so, hrw⟩ := saveMessage_spec hfail
  refine ⟨by rw [emit_frames, so.frames], so.pushes, (so.live tn).trans g.live, so.sess, fun r hr => ?_⟩
  obtain ⟨r', hr', _, _, _, hm, hq⟩ := hrw r hr
  exact ⟨r', hr', hm, hq⟩

/-- stored row: message numbers strictly increase and never exceed the stored counter -/
def StoreInv (r : TopicRow) : Prop := (r.msgs.map (·.seq)).Pairwise (· < ·) ∧ ∀ m ∈ r.msgs, m.seq ≤ r.seq
/-- loaded topic against its row: every stored number is at most the loaded counter, which is at most the stored counter -/
def LiveInv (t : Topic) (r : TopicRow) : Prop := (∀ m ∈ r.msgs, m.seq ≤ t.lastId) ∧ t.lastId ≤ r.seq

theorem inv_failed {t : Topic} {r r' : TopicRow} (hs : StoreInv r) (hl : LiveInv t r) (hm : r'.msgs = r.msgs)
    (hq : r'.seq = r.seq ∨ r'.seq = t.lastId + 1) : StoreInv r' ∧ LiveInv t r' := by
  have hle : t.lastId ≤ r'.seq := by
    rcases hq with hq | hq <;> rw [hq]
    · exact hl.2
    · omega
  unfold StoreInv LiveInv
  rw [hm]
  exact ⟨⟨hs.1, fun m hm => Int.le_trans (hl.1 m hm) hle⟩, hl.1, hle⟩

theorem inv_saved {t t' : Topic} {r r' : TopicRow} {m : MsgRow} (hs : StoreInv r) (hl : LiveInv t r) (hm : r'.msgs = r.msgs ++ [m])
    (hq : r'.seq = m.seq) (h1 : m.seq = t.lastId + 1) (ht : t'.lastId = m.seq) : StoreInv r' ∧ LiveInv t' r' := by
  have hall : ∀ x ∈ r'.msgs, x.seq ≤ m.seq := by
    rw [hm]; intro x hx
    rcases List.mem_append.mp hx with h | h
    · have := hl.1 x h; omega
    · rw [List.mem_singleton.mp h]; exact Int.le_refl _
  refine ⟨⟨?_, by rwa [hq]⟩, by rwa [ht], by rw [ht, hq]; exact Int.le_refl _⟩
  rw [hm, List.map_append, List.pairwise_append]
  refine ⟨hs.1, List.pairwise_singleton _ _, fun x hx y hy => ?_⟩
  obtain ⟨z, hz, rfl⟩ := List.mem_map.mp hx
  rw [List.mem_singleton.mp hy]
  have := hl.1 z hz
  show z.seq < m.seq
  omega

/-- A publish that passed the guards preserves both invariants for its topic under EVERY fault plan (accepted, first store
call failed, second store call failed). -/
theorem pub_preserves_inv (c : Ctx) (a : Actor) (tn : TName) (content : String) (head : List (String × String)) (noEcho : Bool)
    (t : Topic) (r : TopicRow) (g : Guards c a tn t) (hrow : c.w.row? tn = some r) (hs : StoreInv r) (hl : LiveInv t r) :
    ∃ t' r', (c.opPub a tn content head noEcho).w.live? tn = some t' ∧ (c.opPub a tn content head noEcho).w.row? tn = some r' ∧
      StoreInv r' ∧ LiveInv t' r' ∧ t.lastId ≤ t'.lastId ∧ ∃ l, r'.msgs = r.msgs ++ l := by
  have htn := live_name g.live
  rw [g.opPub_eq]
  rcases hsv : c.saveMessage tn { seq := t.lastId + 1, sender := a.uid, head := pubHead a head, content := some content }
      (isReader (eff (t.pud a.uid)) && decide (a.uid ≠ "")) with ⟨c1, _ | mk⟩
  all_goals obtain ⟨so, hrw⟩ := saveMessage_spec hsv
  · obtain ⟨r', hr', _, _, _, hm, hq⟩ := hrw r hrow
    obtain ⟨hs', hl'⟩ := inv_failed hs hl hm hq
    exact ⟨t, r', (so.live tn).trans g.live, hr', hs', hl', Int.le_refl _, [], by rw [hm, List.append_nil]⟩
  · obtain ⟨r', hr', _, _, _, hq, hm⟩ := hrw r hrow
    obtain ⟨hs', hl'⟩ := inv_saved hs hl hm hq (Eq.refl _) (pubTopic_lastId t a _ mk)
    refine ⟨_, r', htn ▸ deliverPub_live .., by rw [(deliverPub_eq ..).1]; exact hr', hs', hl', ?_, _, hm⟩
    rw [pubTopic_lastId]; show t.lastId ≤ t.lastId + 1; omega

/-- Loading resumes from the stored counter: under `StoreInv` the next number issued after a (re)load or a restart is above
every stored - hence every previously acknowledged - number. -/
theorem load_resumes_above (r : TopicRow) (hs : StoreInv r) :
    (loadTopic r).lastId = r.seq ∧ LiveInv (loadTopic r) r ∧ ∀ m ∈ r.msgs, m.seq < (loadTopic r).lastId + 1 := by
  have h1 : (loadTopic r).lastId = r.seq := rfl
  refine ⟨h1, ⟨fun m hm => by rw [h1]; exact hs.2 m hm, by rw [h1]; exact Int.le_refl _⟩, fun m hm => ?_⟩
  have := hs.2 m hm; rw [h1]; omega

/-! ### what is NOT true: a failed save consumes a number once the topic is reloaded

The full statement of the property ("a publish whose save failed consumes no number") is false of the model, hence - by the
correspondence - of the code: `Messages.Save` advances the stored counter before it saves the message. The witness below is
replayed against the implementation by the world stream (known finding `failed-save`). -/
def wS : Sess := { sid := "S1", uid := "U1", lvl := .auth, subs := ["T1"] }
def wT : Topic := { name := "T1", perUser := [("U1", { want := 0xFF, given := 0xFF })], sessions := [("S1", "U1")] }
def wR : TopicRow := { name := "T1", subs := [{ user := "U1", want := 0xFF, given := 0xFF }] }
def wA : Actor := { sid := "S1", sessUid := "U1", uid := "U1", lvl := .auth, bg := false }
/-- the second store call (MessageSave) of the request fails -/
def wC : Ctx := { w := { sess := [wS], live := [wT], store := [wR] }, failK := 2 }

theorem failed_save_consumes_number_after_reload :
    -- the publish fails: nothing is stored, the loaded counter stays at 0 ...
    ((wC.opPub wA "T1" "C1" [] false).w.row? "T1").map (fun r => r.msgs.length) = some 0 ∧
    ((wC.opPub wA "T1" "C1" [] false).w.live? "T1").map (·.lastId) = some 0 ∧
    -- ... but the stored counter is 1, so a topic loaded from this row issues 2 next: number 1 is never used
    ((wC.opPub wA "T1" "C1" [] false).w.row? "T1").map (fun r => (loadTopic r).lastId + 1) = some 2 := by decide

/-- the premise `StoreInv` of `pub_preserves_inv` and `load_resumes_above` is met by a row with two messages -/
example : StoreInv { name := "T1", seq := 2, msgs := [{ seq := 1, sender := "U1", head := [], content := some "a" },
    { seq := 2, sender := "U1", head := [], content := some "b" }] } := by
  refine ⟨by simp, ?_⟩
  intro m hm; simp at hm; rcases hm with rfl | rfl <;> simp

end Tinode.Props.C01
