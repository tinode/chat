import TinodeVerif.Props.C09
import TinodeVerif.Props.C01
/-!
C09 over whole histories: "for every subscription the marks satisfy 0 ≤ read ≤ received ≤ latest message ID at all times … and
neither mark ever decreases, whatever notes clients send".

`Props/C09.lean` proves what one note does to one subscriber's marks.  Here: for EVERY sequence - of any length - of notes (of any
kind, with any number, from anybody, attached or not, with the store call failing or not) and publishes (accepted, refused, failing
in the store), every subscriber's marks in the loaded topic stay within 0 ≤ read ≤ recv ≤ last.
-/
namespace Tinode.Props.C09
open Tinode.World

/-- the invariant of a loaded topic; a user without a record reads as the empty record: 0, 0 -/
def MarksInv (t : Topic) : Prop := 0 ≤ t.lastId ∧ ∀ u, Bounded (t.pud u) t.lastId

/-- an accepted publish numbered `last + 1`: its author's marks jump to it (if `mk`) or stay, everybody else's stay below -/
theorem pub_keeps_marks (t : Topic) (a : Actor) (m : MsgRow) (mk : Bool) (h : MarksInv t) (hm : m.seq = t.lastId + 1) :
    MarksInv (pubTopic t a m mk) := by
  obtain ⟨h0, hb⟩ := h
  unfold MarksInv
  rw [pubTopic_lastId]
  refine ⟨by omega, fun u => ?_⟩
  have := hb u
  rw [pubTopic_pud]
  unfold Bounded at *
  split
  · dsimp only; omega
  · omega

/-- a note which the handler lets through (`q ≤ last`): the sender's marks as `noteMarks` computes them, nobody else's touched -/
theorem note_keeps_marks (t : Topic) (u : Uid) (what : String) (q : Int) (p' : PUD) (rd rv : Int) (h : MarksInv t)
    (hq : q ≤ t.lastId) (hn : noteMarks (t.pud u) what q = some (p', rd, rv)) : MarksInv (t.setPud u p') := by
  obtain ⟨h0, hb⟩ := h
  refine ⟨h0, ?_⟩
  intro v
  rw [lastId_setPud]
  by_cases hv : v = u
  · subst hv; rw [pud_setPud]; exact note_marks_bounded _ what q _ p' rd rv (hb v) hq hn
  · rw [pud_setPud_other _ hv]; exact hb v

/-! ### the two handlers, in terms of the loaded topic -/

/-- what a note leaves in memory: the topic as it was, or with the sender's marks moved by `noteMarks` for a number which exists -/
theorem opNote_live (c : Ctx) (a : Actor) (tn : TName) (what : String) (q : Int) (t : Topic) (hl : c.w.live? tn = some t) :
    (c.opNote a tn what q).w.live? tn = some t ∨
    ∃ p' rd rv, noteMarks (t.pud a.uid) what q = some (p', rd, rv) ∧ q ≤ t.lastId ∧
      (c.opNote a tn what q).w.live? tn = some (t.setPud a.uid p') := by
  have hname := live_name hl
  have o := opNote_outcome c a tn what q
  generalize c.opNote a tn what q = r at o ⊢
  cases o with
  | dropped => exact Or.inl hl
  | unattached => exact Or.inl hl
  | accepted t' p' rd rv _ _ hl' hq _ hm hr =>
    rw [hl] at hl'; cases hl'
    rcases hr with rfl | ⟨c2, rfl⟩
    · exact Or.inl ((noteStore_live ..).trans hl)
    · rw [putLive_w]
      by_cases hmv : (if rd > 0 then rd else rv) > 0
      · rw [if_pos hmv]
        exact Or.inr ⟨p', rd, rv, hm, hq, hname ▸ live_setLive c2.w (t.setPud a.uid p')⟩
      · rw [if_neg hmv]
        exact Or.inl (hname ▸ live_setLive c2.w t)

/-- what a publish leaves in memory: the topic as it was (refused, or the save failed), or with the next number -/
theorem opPub_live (c : Ctx) (a : Actor) (tn : TName) (content : String) (head : List (String × String)) (noEcho : Bool) (t : Topic)
    (hl : c.w.live? tn = some t) :
    (c.opPub a tn content head noEcho).w.live? tn = some t ∨
    ∃ m mk, m.seq = t.lastId + 1 ∧ (c.opPub a tn content head noEcho).w.live? tn = some (pubTopic t a m mk) := by
  have o := C01.opPub_outcome c a tn content head noEcho
  generalize c.opPub a tn content head noEcho = r at o ⊢
  cases o with
  | silent => exact Or.inl hl
  | refused => exact Or.inl hl
  | saved t' c1 res g hsv =>
    cases Option.some.inj (g.live.symm.trans hl)
    cases res with
    | none => exact Or.inl (((saveMessage_spec hsv).1.live tn).trans hl)
    | some mk => exact Or.inr ⟨_, mk, rfl, live_name hl ▸ deliverPub_live ..⟩

/-- one request to the topic `tn`, with its fault plan. Unloading and loading are not among the steps: the invariant is about the
loaded topic, and the stored marks do not satisfy it (`read_note_leaves_stored_recv_behind`). -/
inductive Step
  | note (a : Actor) (what : String) (q : Int) (failK : Nat)
  | pub (a : Actor) (content : String) (head : List (String × String)) (noEcho : Bool) (failK crashK : Nat)

/-- the world after the request, which runs in a fresh context around `w`: the frames, pushes and queues of earlier steps play no part -/
def stepW (tn : TName) (w : World) : Step → World
  | .note a what q fk => (({ w := w, failK := fk } : Ctx).opNote a tn what q).w
  | .pub a content head noEcho fk ck => (({ w := w, failK := fk, crashK := ck } : Ctx).opPub a tn content head noEcho).w

def runW (tn : TName) (w : World) (steps : List Step) : World := steps.foldl (stepW tn) w

theorem step_marks (tn : TName) (w : World) (s : Step) (t : Topic) (hl : w.live? tn = some t) (h : MarksInv t) :
    ∃ t', (stepW tn w s).live? tn = some t' ∧ MarksInv t' := by
  cases s with
  | note a what q fk =>
    rcases opNote_live ({ w := w, failK := fk } : Ctx) a tn what q t hl with h1 | ⟨p', rd, rv, hn, hq, h1⟩
    · exact ⟨t, h1, h⟩
    · exact ⟨_, h1, note_keeps_marks t a.uid what q p' rd rv h hq hn⟩
  | pub a content head noEcho fk ck =>
    rcases opPub_live ({ w := w, failK := fk, crashK := ck } : Ctx) a tn content head noEcho t hl with h1 | ⟨m, mk, hm, h1⟩
    · exact ⟨t, h1, h⟩
    · exact ⟨_, h1, pub_keeps_marks t a m mk h hm⟩

/-- **every history**: every subscriber's marks in the loaded topic satisfy 0 ≤ read ≤ recv ≤ last -/
theorem history_marks (tn : TName) (steps : List Step) (w : World) (t : Topic) (hl : w.live? tn = some t) (h : MarksInv t) :
    ∃ t', (runW tn w steps).live? tn = some t' ∧ MarksInv t' := by
  induction steps generalizing w t with
  | nil => exact ⟨t, hl, h⟩
  | cons s rest ih =>
    obtain ⟨t1, hl1, h1⟩ := step_marks tn w s t hl h
    exact ih (stepW tn w s) t1 hl1 h1

/-- the premises are met: a topic as it is loaded from a row whose marks are in order -/
example : MarksInv { name := "T1", lastId := 3, perUser := [("U1", { readId := 1, recvId := 2 })] } := by
  refine ⟨by decide, ?_⟩
  intro u
  by_cases hu : u = "U1"
  · subst hu; unfold Bounded; decide
  · have : ({ name := "T1", lastId := 3, perUser := [("U1", { readId := 1, recvId := 2 })] } : Topic).pud u = {} := by
      unfold Topic.pud alGet
      simp [List.find?, Ne.symm hu]
    rw [this]; unfold Bounded; decide

private theorem ite2_w (p q : Prop) [Decidable p] [Decidable q] (a b d : Ctx) (x : World) (ha : a.w = x) (hb : b.w = x) (hd : d.w = x) :
    (if p then a else if q then b else d).w = x :=
  ite_ind (P := fun r : Ctx => r.w = x) (fun _ => ha) fun _ => ite_ind (P := fun r : Ctx => r.w = x) (fun _ => hb) fun _ => hd

end Tinode.Props.C09
