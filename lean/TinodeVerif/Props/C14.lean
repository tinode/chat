import TinodeVerif.Model.TopicReq
import TinodeVerif.Proofs.World
/-!
C14 (the sequential part). The clauses: attach and detach keep the two attachment tables in step, and every subscribe, leave and
delete request is answered.

The interleaving, locking and goroutine clauses of C14 talk about schedules the sequential model does not have; what the
model carries is the bookkeeping itself: `World.detach` (the session's table) against `Topic.sessions` (the topic's table) in
`Ctx.opLeave`, `Ctx.evictUser`, `Ctx.terminateTopic` (`World.attach` is called by `Ctx.subscriptionReply` and its variants; no theorem here is about it). The clause "every {leave} is answered" is refuted
(`root_leave_on_behalf_unanswered`). For all handlers the monitor checks "a session lists a topic iff the topic lists the
session" and "answered" after every request of every generated history.
-/
namespace Tinode.Props.C14
open Tinode.World

theorem detach_not_attached (w : World) (sid : Sid) (tn : TName) : (w.detach sid tn).attached sid tn = false := by
  unfold World.detach
  cases h : w.sess? sid with
  | none => unfold World.attached; rw [h]
  | some s =>
    obtain rfl : s.sid = sid := find_key Sess.sid w.sess sid h
    unfold World.attached
    rw [sess_setSess w { s with subs := s.subs.filter (· ≠ tn) } (by rw [h]; rfl)]
    simp

/-- {leave} (no unsub) by an attached session acting for the user it is attached as: answered 200, the topic is gone from
the session's table and the session from the topic's table -/
theorem leave_detaches_both (c : Ctx) (a : Actor) (tn : TName) (t : Topic)
    (hatt : c.w.attached a.sid tn = true) (hlive : c.w.live? tn = some t) (hact : t.inactive = false)
    (hs : t.sessions.find? (·.1 = a.sid) = some (a.sid, a.uid)) :
    (a.sid, ctrl 200 tn) ∈ (c.opLeave a tn false).frames ∧ (c.opLeave a tn false).w.attached a.sid tn = false ∧
    ∃ t', (c.opLeave a tn false).w.live? tn = some t' ∧ t'.sessions = t.sessions.filter (·.1 ≠ a.sid) := by
  obtain rfl := live_name hlive
  unfold Ctx.opLeave
  -- past the guards (`-zeta`: the `let`s of the last branch stay shared), the handler is `(c2.emit ..).putLive t2`, where
  -- `c1`, `t1` are `c`, `t` with the two tables updated
  simp -zeta only [hatt, Bool.not_true, Bool.false_eq_true, if_false, hlive, hact, hs, ne_eq, not_true_eq_false]
  extract_lets t1 c1 _ pud t2 c2
  -- the online counter and the "off" notice touch neither table
  have ht2 : t2.sessions = t1.sessions ∧ t2.name = t.name := by unfold t2; split <;> exact ⟨rfl, rfl⟩
  have hc2 : c2.w = c1.w := by unfold c2; split <;> rfl
  refine ⟨?_, ?_, t2, ?_, ht2.1⟩
  · exact List.mem_append_right _ (List.mem_singleton.mpr rfl)
  · show (c2.w.setLive t2).attached a.sid t.name = false
    rw [hc2]
    exact detach_not_attached c.w a.sid t.name
  · rw [← ht2.2]
    exact live_setLive _ _

/-- later requests go through the load path of `joinTopic`, which answers 404 when the row is soft-deleted
(`deleted_topic_refused`) or missing (not stated as a theorem) -/
theorem terminate_unloads (c : Ctx) (t : Topic) : (c.terminateTopic t).w.live? t.name = none := by
  unfold Ctx.terminateTopic
  exact live_delLive _ _

/-- a soft-deleted topic (its row is there, in state 20) cannot be joined: 404, and no topic is handed on -/
theorem deleted_topic_refused (c : Ctx) (a : Actor) (tn : TName) (r : TopicRow)
    (hl : c.w.live? tn = none) (hn : ¬ ((tn.drop 1).toNat?.getD 0) ≥ c.w.nextT) (hf : c.failK = 0)
    (hr : c.w.row? tn = some r) (hs : r.state = 20) :
    (c.joinTopic a tn).2 = none ∧ (a.sid, ctrl 404 tn) ∈ (c.joinTopic a tn).1.frames := by
  unfold Ctx.joinTopic
  simp only [hl, hn, if_false]
  obtain ⟨c', hc', hw⟩ := call_of_ok c "TopicGet" (call_ok c "TopicGet" id (.inl hf)).1 id
  simp [hc', hw, hr, hs]

/-! ### what is NOT true: every {leave} is answered

A root session attached to a topic for user A that sends {leave} as user B gets no reply at all (topic.go:765: remSession
returns nil and no branch answers). Known finding `root-leave-obo` (F25). -/
def wS : Sess := { sid := "S7", uid := "U3", lvl := .root, subs := ["T1"] }
def wT : Topic := { name := "T1", perUser := [("U3", { want := 0xFF, given := 0xFF, online := 1 })], sessions := [("S7", "U3")] }
def wA : Actor := { sid := "S7", sessUid := "U3", uid := "U1", lvl := .auth, bg := false }

theorem root_leave_on_behalf_unanswered :
    (({ w := { sess := [wS], live := [wT] } } : Ctx).opLeave wA "T1" false).frames = [] := by decide

end Tinode.Props.C14
