import TinodeVerif.Gen.AdapterPin
import TinodeVerif.Props.Pin
/-! C01: the adapter functions its store behaviour rests on are the ones which were transcribed and reviewed (see Props/Pin.lean). -/
namespace Tinode.Props.Pin
open Tinode.AdapterPin

theorem C01_store_functions_as_reviewed : pinsFor Tinode.Gen.AdapterPin.pins "C01" = pinsFor expected "C01" := by rfl

end Tinode.Props.Pin
