import TinodeVerif.Proofs.Pub
import TinodeVerif.Proofs.Guards
/-!
C09 — read and received marks only move forward and stay within bounds.

`noteMarks`, `noteValid`, `notePass`, `Ctx.noteStore` and `Ctx.opNote` (Model/TopicReq.lean) transcribe Session.note and
Topic.handleNoteBroadcast. The theorems are about the marks held by the loaded topic (what `{get desc}` reports while the topic
stays loaded; `{get sub}` reports the stored ones). The stored marks do NOT satisfy `read ≤ recv` (witness below, known finding F2).

Of this property in other files: over whole histories, Props/C09h.lean (same namespace); on a channel-enabled topic,
Props/C02c.lean in the namespace of C02: `Tinode.Props.C02.infoRcptC`, `Tinode.Props.C02.fanoutInfoC_eq`,
`Tinode.Props.C02.no_info_to_channel_readers`.
-/
namespace Tinode.Props.C09
open Tinode.World Tinode.Acs

def Bounded (p : PUD) (last : Int) : Prop := 0 ≤ p.readId ∧ p.readId ≤ p.recvId ∧ p.recvId ≤ last

theorem noteMarks_cases {pud : PUD} {what : String} {q : Int} {p' : PUD} {rd rv : Int} (h : noteMarks pud what q = some (p', rd, rv)) :
    (pud.readId < q ∧ p' = { pud with readId := q, recvId := if q > pud.recvId then q else pud.recvId }) ∨
    (pud.recvId < q ∧ p' = { pud with recvId := if pud.readId > q then pud.readId else q }) ∨ p' = pud := by
  unfold noteMarks at h
  split at h
  · split at h
    · cases h
    · cases h
      exact Or.inl ⟨by omega, by split <;> rfl⟩
  · split at h
    · split at h
      · cases h
      · cases h
        exact Or.inr (Or.inl ⟨by omega, by split <;> rfl⟩)
    · cases h
      exact Or.inr (Or.inr rfl)

/-- a note never moves a mark back -/
theorem note_marks_forward (pud : PUD) (what : String) (q : Int) (p' : PUD) (rd rv : Int)
    (h : noteMarks pud what q = some (p', rd, rv)) : pud.readId ≤ p'.readId ∧ pud.recvId ≤ p'.recvId := by
  rcases noteMarks_cases h with ⟨hq, rfl⟩ | ⟨hq, rfl⟩ | rfl
  · dsimp only; omega
  · dsimp only; omega
  · omega

/-- within bounds before, a note for an existing message (`q ≤ lastId`, checked by the handler) leaves them within bounds -/
theorem note_marks_bounded (pud : PUD) (what : String) (q last : Int) (p' : PUD) (rd rv : Int)
    (hb : Bounded pud last) (hq : q ≤ last) (h : noteMarks pud what q = some (p', rd, rv)) : Bounded p' last := by
  unfold Bounded at *
  rcases noteMarks_cases h with ⟨hq, rfl⟩ | ⟨hq, rfl⟩ | rfl
  · dsimp only; omega
  · dsimp only; omega
  · exact hb

theorem note_marks_only_marks (pud : PUD) (what : String) (q : Int) (p' : PUD) (rd rv : Int)
    (h : noteMarks pud what q = some (p', rd, rv)) :
    p'.want = pud.want ∧ p'.given = pud.given ∧ p'.priv = pud.priv ∧ p'.delId = pud.delId ∧ p'.online = pud.online ∧ p'.deleted = pud.deleted := by
  rcases noteMarks_cases h with ⟨_, rfl⟩ | ⟨_, rfl⟩ | rfl <;> exact ⟨rfl, rfl, rfl, rfl, rfl, rfl⟩

theorem stale_read_dropped (pud : PUD) (q : Int) (h : q ≤ pud.readId) : noteMarks pud "read" q = none := by
  unfold noteMarks; simp [h]
theorem stale_recv_dropped (pud : PUD) (q : Int) (h : q ≤ pud.recvId) : noteMarks pud "recv" q = none := by
  unfold noteMarks; simp [h]

/-- which notes the session lets through: typing notes carry 0, read/recv a positive number, nothing else -/
theorem note_valid_iff (what : String) (q : Int) :
    noteValid what q = true ↔ ((what = "kp" ∨ what = "kpa" ∨ what = "kpv") ∧ q = 0) ∨ ((what = "read" ∨ what = "recv") ∧ q > 0) := by
  unfold noteValid
  split <;> simp_all

theorem noteStore_live (c : Ctx) (tn : TName) (u : Uid) (rd rv : Int) (k : TName) :
    (c.noteStore tn u rd rv).1.w.live? k = c.w.live? k := by
  unfold Ctx.noteStore
  by_cases h : (if rd > 0 then rd else rv) > 0
  · rw [if_pos h]
    split
    rename_i c1 ok heq
    have h1 : c1.w.live? k = c.w.live? k :=
      (congrArg (fun p => p.1.w.live? k) heq).symm.trans ((subsUpdate_storeOnly ..).live k)
    cases ok
    · exact h1
    · show (if rd > 0 then _ else c1).w.live? k = c.w.live? k
      split <;> exact h1
  · rw [if_neg h]

inductive NoteOutcome (c : Ctx) (a : Actor) (tn : TName) (what : String) (q : Int) : Ctx → Prop
  | dropped : NoteOutcome c a tn what q c
  | unattached : noteValid what q = true → c.w.attached a.sid tn = false → NoteOutcome c a tn what q (c.emit a.sid (ctrl 409 tn))
  /-- either the store write failed (`r` is what it left), or the relay ran and the topic was put back, with the sender's record
  replaced when a mark moved (a typing note moves none) -/
  | accepted (t : Topic) (p' : PUD) (rd rv : Int) (r : Ctx) : noteValid what q = true → c.w.live? tn = some t → q ≤ t.lastId →
      notePass t (eff (t.pud a.uid)) what = true → noteMarks (t.pud a.uid) what q = some (p', rd, rv) →
      (r = (c.noteStore tn a.uid rd rv).1 ∨ ∃ c2 : Ctx, r = c2.putLive (if (if rd > 0 then rd else rv) > 0 then t.setPud a.uid p' else t)) →
      NoteOutcome c a tn what q r

theorem opNote_outcome (c : Ctx) (a : Actor) (tn : TName) (what : String) (q : Int) : NoteOutcome c a tn what q (c.opNote a tn what q) := by
  unfold Ctx.opNote
  refine ite_ind (fun _ => .dropped) fun _ => ?_
  refine ite_ind (fun _ => .dropped) fun hv => ?_
  rw [Bool.not_eq_true, Bool.not_eq_false'] at hv
  refine ite_ind (fun h => .unattached hv (by simpa using h.1)) fun _ => ?_
  split
  · exact .dropped
  rename_i t hl
  refine ite_ind (fun _ => .dropped) fun _ => ?_
  refine ite_ind (fun _ => .dropped) fun hq => ?_
  extract_lets pud
  refine ite_ind (fun _ => .dropped) fun hp => ?_
  split
  · exact .dropped
  rename_i p' rd rv hm
  refine .accepted t p' rd rv _ hv hl (by omega) (by simpa using hp) hm ?_
  split
  · rename_i h; exact Or.inl (by rw [h])
  · exact Or.inr ⟨_, rfl⟩

/-- an invalid note (unknown kind, zero or negative number for read/recv, non-zero for typing) is dropped without any
reply or side effect: the whole context is unchanged -/
theorem invalid_note_no_effect (c : Ctx) (a : Actor) (tn : TName) (what : String) (q : Int) (h : noteValid what q = false) :
    c.opNote a tn what q = c := by
  have o := opNote_outcome c a tn what q
  generalize c.opNote a tn what q = r at o ⊢
  cases o with
  | dropped => rfl
  | unattached hv => rw [h] at hv; cases hv
  | accepted _ _ _ _ _ hv => rw [h] at hv; cases hv

/-- a note for a message that does not exist yet, or from a user without the needed permission (R for read/recv, W for
typing), or repeating an old value, is dropped without any reply or side effect -/
theorem refused_note_no_effect (c : Ctx) (a : Actor) (tn : TName) (what : String) (q : Int) (t : Topic)
    (hatt : c.w.attached a.sid tn = true) (hlive : c.w.live? tn = some t)
    (h : q > t.lastId ∨ notePass t (eff (t.pud a.uid)) what = false ∨ noteMarks (t.pud a.uid) what q = none) :
    c.opNote a tn what q = c := by
  have o := opNote_outcome c a tn what q
  generalize c.opNote a tn what q = r at o ⊢
  cases o with
  | dropped => rfl
  | unattached _ hn => rw [hatt] at hn; cases hn
  | accepted t' _ _ _ _ _ hl hq hp hm =>
    rw [hlive] at hl; cases hl
    rcases h with h | h | h
    · omega
    · rw [h] at hp; cases hp
    · rw [h] at hm; cases hm

/-- typing notes are relayed only from users with write permission; read/recv notes need read permission -/
theorem note_pass_iff (t : Topic) (m : Mode) (what : String) :
    notePass t m what = true ↔
      ((what = "kp" ∨ what = "kpa" ∨ what = "kpv") ∧ isWriter m = true ∧ t.readOnly = false) ∨
      (¬(what = "kp" ∨ what = "kpa" ∨ what = "kpv") ∧ isReader m = true) := by
  unfold notePass
  split <;> simp_all

/-- the sessions that are sent a relayed note: attached, not the originating one, acting for a reader, and - for `kp` - not the
typist's -/
def infoRcpt (t : Topic) (skipSid : Sid) (sender : Uid) (what : String) : List (Sid × Uid) :=
  t.sessions.filter (fun (sid, uid) => !(decide (sid = skipSid) || !t.userIsReader uid || (decide (what = "kp") && decide (sender = uid))))

theorem fanoutInfo_eq (c : Ctx) (t : Topic) (skipSid : Sid) (sender : Uid) (what f : String) :
    c.fanoutInfo t skipSid sender what f = { c with frames := c.frames ++ (infoRcpt t skipSid sender what).map (fun x => (x.1, f)) } :=
  foldl_emit t.sessions (·.1) f
    (fun c ⟨sid, uid⟩ => by
      by_cases h1 : sid = skipSid <;> cases h2 : t.userIsReader uid <;> by_cases h3 : what = "kp" <;> by_cases h4 : sender = uid <;>
        simp [h1, h2, h3, h4]) c

/-- The relayed notification reaches exactly the attached sessions of users with read permission, never the originating
session, and a `kp` note never any session of the typist (the other typing kinds, `kpa` and `kpv`, are not held back: topic.go:1405). (The mode tested is `eff (t.pud uid)`, written out.) -/
theorem info_recipient_iff (t : Topic) (skip : Sid) (sender : Uid) (what : String) (sid : Sid) (uid : Uid) :
    (sid, uid) ∈ infoRcpt t skip sender what ↔
      (sid, uid) ∈ t.sessions ∧ sid ≠ skip ∧ isReader ((t.pud uid).want &&& (t.pud uid).given) = true ∧ ¬(what = "kp" ∧ sender = uid) := by
  unfold infoRcpt Topic.userIsReader eff
  simp only [List.mem_filter, Bool.not_eq_true', Bool.or_eq_false_iff, decide_eq_false_iff_not, Bool.not_eq_false',
    Bool.and_eq_false_iff, Decidable.not_and_iff_not_or_not, and_assoc]

/-! ### a publish moves both marks of its author to the new message, when the author reads and the write of the marks succeeds (`marked`) -/

theorem pub_marks_jump (t : Topic) (a : Actor) (m : MsgRow) (h : (t.pud? a.uid).isSome = true) :
    ((pubTopic t a m true).pud a.uid).readId = m.seq ∧ ((pubTopic t a m true).pud a.uid).recvId = m.seq := by
  rw [pubTopic_pud, if_pos ⟨⟨h, rfl⟩, rfl⟩]
  exact ⟨rfl, rfl⟩

/-! ### what is NOT true: the stored marks

`{note read}` beyond the recv mark raises `recv` in memory but writes only `ReadSeqId` (topic.go:1224-1270): the stored row
ends with read > recv. Known finding F2 (the repair changes a call pinned by the existing tests). -/
def wS : Sess := { sid := "S1", uid := "U1", lvl := .auth, subs := ["T1"] }
def wT : Topic := { name := "T1", lastId := 3, perUser := [("U1", { want := 0xFF, given := 0xFF })], sessions := [("S1", "U1")] }
def wR : TopicRow := { name := "T1", seq := 3, subs := [{ user := "U1", want := 0xFF, given := 0xFF }] }
def wA : Actor := { sid := "S1", sessUid := "U1", uid := "U1", lvl := .auth, bg := false }
def wC : Ctx := { w := { sess := [wS], live := [wT], store := [wR] } }

theorem read_note_leaves_stored_recv_behind :
    -- in memory both marks are 2 ...
    ((wC.opNote wA "T1" "read" 2).w.live? "T1").map (fun t => ((t.pud "U1").readId, (t.pud "U1").recvId)) = some (2, 2) ∧
    -- ... the stored row has read = 2, recv = 0
    ((wC.opNote wA "T1" "read" 2).w.row? "T1").map (fun r => r.subs.map (fun s => (s.readId, s.recvId))) = some [(2, 0)] := by
  decide

example : Bounded { readId := 1, recvId := 2 } 3 := by unfold Bounded; simp

end Tinode.Props.C09
