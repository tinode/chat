import TinodeVerif.Model.TopicChan
import TinodeVerif.Proofs.Lists
/-!
C03, the clause "nor suspended": when an account is suspended the hub marks the loaded group topics it owns (and its loaded p2p
topics) read-only; `C03.pub_refused_no_effect` then refuses every publish there that goes through `Ctx.opPub` (a channel-enabled
topic publishes through `Ctx.opPubC`, which has the same guard and no such theorem).
-/
namespace Tinode.Props.C03
open Tinode.World

/-- after the hub has processed the suspension of `u`, every loaded topic owned by `u` is read-only -/
theorem suspended_owner_topics_readonly (c : Ctx) (u : Uid) (hu : u ≠ "") (t' : Topic)
    (h : t' ∈ (c.opUserState u true).w.live) (ho : t'.owner = u) : t'.readOnly = true :=
  of_mem_map_ite (q := (·.readOnly = true)) (fun _ _ => rfl) h (.inr ⟨hu, ho⟩)

/-- a suspension (or its end) leaves a topic which is not a p2p topic and not owned by `u` as it was -/
theorem suspension_leaves_others (c : Ctx) (u : Uid) (s : Bool) (t : Topic) (ht : t ∈ c.w.live)
    (h1 : t.owner ≠ u) (h2 : isP2PKey t.name = false) : t ∈ (c.opUserState u s).w.live := by
  unfold Ctx.opUserState
  simp only [List.mem_map]
  refine ⟨t, ht, ?_⟩
  have : ¬((isP2PKey t.name = true ∧ (t.pud? u).isSome = true) ∨ (u ≠ "" ∧ t.owner = u)) := by
    rintro (⟨hp, _⟩ | ⟨_, ho⟩)
    · rw [h2] at hp; cases hp
    · exact h1 ho
  rw [if_neg this]

end Tinode.Props.C03
