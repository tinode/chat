/-! Lemmas about lists which are not about any one model and which core does not have. -/
namespace Tinode

section keyed
variable {α κ} [DecidableEq κ] (key : α → κ) (l : List α) (x : α)

theorem find_replace (h : l.any (fun y => key y = key x) = true) :
    (l.map (fun y => if key y = key x then x else y)).find? (fun y => key y = key x) = some x := by
  induction l with
  | nil => cases h
  | cons y ys ih =>
    by_cases hy : key y = key x
    · simp [hy]
    · simp only [List.any_cons, hy, decide_false, Bool.false_or] at h
      simpa [hy] using ih h

theorem find_replace_other (k : κ) (hk : k ≠ key x) :
    (l.map (fun y => if key y = key x then x else y)).find? (fun y => key y = k) = l.find? (fun y => key y = k) := by
  induction l with
  | nil => rfl
  | cons y ys ih =>
    by_cases hy : key y = key x
    · simp [hy, ih, Ne.symm hk]
    · simp [hy, ih, List.find?_cons]

theorem map_key_replace : (l.map (fun y => if key y = key x then x else y)).map key = l.map key := by
  rw [List.map_map]
  refine List.map_congr_left fun y _ => ?_
  by_cases hy : key y = key x <;> simp [hy]

theorem find_upsert :
    (if l.any (fun y => key y = key x) then l.map (fun y => if key y = key x then x else y) else l ++ [x]).find?
      (fun y => key y = key x) = some x := by
  split
  · exact find_replace key l x ‹_›
  · rename_i h
    have : l.find? (fun y => decide (key y = key x)) = none :=
      List.find?_eq_none.mpr fun y hy hk => h (List.any_eq_true.mpr ⟨y, hy, hk⟩)
    simp [List.find?_append, this]

theorem find_upsert_other (k : κ) (hk : k ≠ key x) :
    (if l.any (fun y => key y = key x) then l.map (fun y => if key y = key x then x else y) else l ++ [x]).find?
      (fun y => key y = k) = l.find? (fun y => key y = k) := by
  split
  · exact find_replace_other key l x k hk
  · simp [List.find?_append, Ne.symm hk]

theorem find_key {p : α} (k : κ) (h : l.find? (fun y => key y = k) = some p) : key p = k := by
  simpa using List.find?_some h

theorem find_filter_ne (k : κ) : (l.filter (fun y => key y ≠ k)).find? (fun y => key y = k) = none := by
  simp [List.find?_eq_none]

end keyed

/-- what the step for `a` brings about and every step keeps is there at the end of the fold -/
theorem foldl_reaches {α β} {f : β → α → β} {T : β → Prop} {a : α} (keep : ∀ b x, T b → T (f b x)) (est : ∀ b, T (f b a))
    {l : List α} (h : a ∈ l) (b : β) : T (l.foldl f b) := by
  induction l generalizing b with
  | nil => cases h
  | cons x l ih =>
    rcases List.mem_cons.mp h with rfl | h
    · exact List.foldlRecOn l f (est b) fun b hb x _ => keep b x hb
    · exact ih h _

theorem mem_insertIfAbsent {α} [BEq α] [LawfulBEq α] (l : List α) (u : α) : u ∈ (if l.contains u then l else l ++ [u]) := by
  split
  · simpa using ‹l.contains u = true›
  · simp

/-- an element of the map which satisfies `p` is a `g x`: an `x` left alone does not satisfy `p` (give `q`: it is found only when the goal is a predicate symbol applied to `y`) -/
theorem of_mem_map_ite {α} {p q : α → Prop} [DecidablePred p] {g : α → α} (hg : ∀ x, p x → q (g x)) {l : List α} {y : α}
    (hy : y ∈ l.map (fun x => if p x then g x else x)) (hp : p y) : q y := by
  obtain ⟨x, -, rfl⟩ := List.mem_map.mp hy
  split
  · exact hg x ‹_›
  · rw [if_neg ‹_›] at hp
    contradiction

theorem mapM_map_of_leftInverse {α β : Type} {f : α → Option β} {g : β → α} :
    ∀ {l : List β}, (∀ b ∈ l, f (g b) = some b) → (l.map g).mapM f = some l
  | [], _ => rfl
  | b :: l, h => by
    simp only [List.forall_mem_cons] at h
    simp [List.mapM_cons, h.1, mapM_map_of_leftInverse h.2]

theorem map_of_mapM_eq_some {α β : Type} {f : α → Option β} {g : β → α} {p : β → Prop}
    (h : ∀ a b, f a = some b → g b = a ∧ p b) : ∀ {l : List α} {l' : List β}, l.mapM f = some l' → l'.map g = l ∧ ∀ b ∈ l', p b
  | [], l', hm => by cases hm; simp
  | a :: l, l', hm => by
    simp only [List.mapM_cons, Option.bind_eq_bind, Option.bind_eq_some_iff, Option.pure_def, Option.some.injEq] at hm
    obtain ⟨b, hb, r, hr, rfl⟩ := hm
    obtain ⟨h1, h2⟩ := h a b hb
    obtain ⟨h3, h4⟩ := map_of_mapM_eq_some h hr
    exact ⟨by rw [List.map_cons, h1, h3], List.forall_mem_cons.mpr ⟨h2, h4⟩⟩

/-- `run` is the longest prefix of `p`s -/
theorem exists_run {α} (p : α → Bool) (l : List α) :
    ∃ run rest, l = run ++ rest ∧ (∀ x ∈ run, p x = true) ∧ ∀ d ∈ rest.head?, p d = false :=
  ⟨l.takeWhile p, l.dropWhile p, List.takeWhile_append_dropWhile.symm, List.all_eq_true.mp List.all_takeWhile,
   fun d hd => by have := List.head?_dropWhile_not p l; rwa [hd] at this⟩

/-- the decomposition of `exists_run` is the only one -/
theorem takeWhile_dropWhile_append {α} (p : α → Bool) {run rest : List α} (hrun : ∀ x ∈ run, p x = true)
    (hrest : ∀ d ∈ rest.head?, p d = false) :
    (run ++ rest).takeWhile p = run ∧ (run ++ rest).dropWhile p = rest := by
  rw [List.takeWhile_append_of_pos hrun, List.dropWhile_append_of_pos hrun]
  cases rest with
  | nil => simp
  | cons d _ => simp [hrest d rfl]

end Tinode
