import TinodeVerif.Model.TopicReq
import TinodeVerif.Proofs.World
/-! What the two halves of an accepted publish do: `Ctx.saveMessage` (the store) and `Ctx.deliverPub` (memory and traffic). -/
namespace Tinode.World

theorem subsUpdate_eq (c : Ctx) (tn : TName) (u : Uid) (f : SubRow → SubRow) :
    c.subsUpdate tn u f = c.call "SubsUpdate" (fun w =>
      w.updRow tn fun r => { r with subs := r.subs.map (fun s => if u = "" ∨ s.user = u then f s else s) }) := rfl

theorem subsUpdate_storeOnly (c : Ctx) (tn : TName) (u : Uid) (f : SubRow → SubRow) : StoreOnly c (c.subsUpdate tn u f).1 :=
  call_storeOnly c (fun w => live_updRow w tn _) (fun w => sess_updRow w tn _)

theorem subsUpdate_row {c : Ctx} {tn : TName} {r : TopicRow} (u : Uid) (f : SubRow → SubRow) (h : c.w.row? tn = some r) :
    ∃ r', (c.subsUpdate tn u f).1.w.row? tn = some r' ∧ r'.seq = r.seq ∧ r'.msgs = r.msgs ∧ r'.del = r.del ∧ r'.owner = r.owner ∧
      r'.dellog = r.dellog := by
  rw [subsUpdate_eq, call_w]
  split
  · exact ⟨_, row_updRow _ h rfl, rfl, rfl, rfl, rfl, rfl⟩
  · exact ⟨r, h, rfl, rfl, rfl, rfl, rfl⟩

/-- what a save that reports success has done -/
structure SaveOk (c c1 : Ctx) (tn : TName) (m : MsgRow) : Prop where
  frames : c1.frames = c.frames
  pushes : c1.pushes = c.pushes
  routed : c1.routed = c.routed
  live : ∀ k, c1.w.live? k = c.w.live? k
  sess : c1.w.sess = c.w.sess
  row : ∀ r, c.w.row? tn = some r → ∃ r', c1.w.row? tn = some r' ∧ r'.seq = m.seq ∧ r'.msgs = r.msgs ++ [m] ∧ r'.del = r.del ∧
          r'.owner = r.owner ∧ r'.dellog = r.dellog

/-- `saveMessage` with its pairs taken apart by projections: no case analysis is needed to speak of the intermediate contexts -/
theorem saveMessage_eq (c : Ctx) (tn : TName) (m : MsgRow) (rbs : Bool) : c.saveMessage tn m rbs =
    let r1 := c.call "TopicUpdateOnMessage" (effBumpSeq tn m.seq)
    let r2 := r1.1.call "MessageSave" (effSaveMsg tn m)
    let r3 := r2.1.subsUpdate tn m.sender (fun s => { s with readId := m.seq, recvId := m.seq })
    if !r1.2 then (r1.1, none) else if !r2.2 then (r2.1, none) else if rbs then (r3.1, some r3.2) else (r2.1, some false) := by
  rfl

/-- The save under every fault plan: when it fails the counter is either untouched (the first call failed) or already advanced (the
second). -/
theorem saveMessage_spec {c c1 : Ctx} {tn : TName} {m : MsgRow} {rbs : Bool} {res : Option Bool}
    (h : c.saveMessage tn m rbs = (c1, res)) :
    StoreOnly c c1 ∧ ∀ r, c.w.row? tn = some r → ∃ r', c1.w.row? tn = some r' ∧ r'.del = r.del ∧ r'.owner = r.owner ∧
      r'.dellog = r.dellog ∧
      match res with
      | some _ => r'.seq = m.seq ∧ r'.msgs = r.msgs ++ [m]
      | none => r'.msgs = r.msgs ∧ (r'.seq = r.seq ∨ r'.seq = m.seq) := by
  rw [saveMessage_eq] at h
  extract_lets r1 r2 r3 at h
  have s1 : StoreOnly c r1.1 := call_storeOnly c (fun w => live_updRow w tn _) (fun w => sess_updRow w tn _)
  have s2 : StoreOnly r1.1 r2.1 := call_storeOnly r1.1 (fun w => live_updRow w tn _) (fun w => sess_updRow w tn _)
  have w1 : r1.1.w = if r1.2 then effBumpSeq tn m.seq c.w else c.w := call_w ..
  have w2 : r2.1.w = if r2.2 then effSaveMsg tn m r1.1.w else r1.1.w := call_w ..
  cases h1 : r1.2
  · -- the first call failed
    rw [h1] at h w1; cases h
    exact ⟨s1, fun r hr => ⟨r, w1 ▸ hr, rfl, rfl, rfl, rfl, Or.inl (rfl)⟩⟩
  rw [h1] at h w1
  have b : ∀ r, c.w.row? tn = some r → r1.1.w.row? tn = some { r with seq := m.seq } := fun r hr =>
    w1 ▸ row_updRow _ hr rfl
  cases h2 : r2.2
  · -- the second call failed: the counter is already advanced
    rw [h2] at h w2; cases h
    exact ⟨s1.trans s2, fun r hr => ⟨{ r with seq := m.seq }, w2 ▸ b r hr, rfl, rfl, rfl, rfl, Or.inr (rfl)⟩⟩
  rw [h2] at h w2
  have s : ∀ r, c.w.row? tn = some r → r2.1.w.row? tn = some { r with seq := m.seq, msgs := r.msgs ++ [m] } := fun r hr =>
    w2 ▸ row_updRow _ (b r hr) rfl
  cases rbs
  · cases h
    exact ⟨s1.trans s2, fun r hr => ⟨_, s r hr, rfl, rfl, rfl, rfl, rfl⟩⟩
  · -- the sender's marks: a failure of this write is ignored
    cases h
    refine ⟨(s1.trans s2).trans (subsUpdate_storeOnly ..), fun r hr => ?_⟩
    obtain ⟨r', hr', hq, hm, hd, ho, hl⟩ := subsUpdate_row m.sender _ (s r hr)
    exact ⟨r', hr', hd, ho, hl, hq, hm⟩

theorem saveMessage_some {c c1 : Ctx} {tn : TName} {m : MsgRow} {rbs mk : Bool} (h : c.saveMessage tn m rbs = (c1, some mk)) :
    SaveOk c c1 tn m := by
  obtain ⟨s, hrow⟩ := saveMessage_spec h
  refine ⟨s.frames, s.pushes, s.routed, s.live, s.sess, fun r hr => ?_⟩
  obtain ⟨r', hr', hd, ho, hl, hq, hm⟩ := hrow r hr
  exact ⟨r', hr', hq, hm, hd, ho, hl⟩

theorem saveMessage_succeeds (c : Ctx) (tn : TName) (m : MsgRow) (rbs : Bool) (hf : c.failK = 0) :
    ∃ c1 mk, c.saveMessage tn m rbs = (c1, some mk) := by
  rw [saveMessage_eq]
  extract_lets r1 r2 r3
  have h1 : r1.2 = true := (call_ok c _ _ (Or.inl hf)).1
  have h2 : r2.2 = true := (call_ok r1.1 _ _ (Or.inl ((call_failK ..).trans hf))).1
  rw [h1, h2]
  cases rbs
  · exact ⟨_, _, rfl⟩
  · exact ⟨_, _, rfl⟩

/-- the loaded topic after an accepted publish -/
def pubTopic (t : Topic) (a : Actor) (m : MsgRow) (marked : Bool) : Topic :=
  let t' := { t with lastId := m.seq }
  if (t.pud? a.uid).isSome ∧ marked then t'.setPud a.uid { t.pud a.uid with readId := m.seq, recvId := m.seq } else t'

theorem pubTopic_lastId (t a m mk) : (pubTopic t a m mk).lastId = m.seq := by
  unfold pubTopic; split <;> rfl
theorem pubTopic_sessions (t a m mk) : (pubTopic t a m mk).sessions = t.sessions := by
  unfold pubTopic; split <;> rfl
theorem pubTopic_name (t a m mk) : (pubTopic t a m mk).name = t.name := by
  unfold pubTopic; split <;> rfl

theorem pubTopic_pud (t : Topic) (a : Actor) (m : MsgRow) (mk : Bool) (u : Uid) : (pubTopic t a m mk).pud u =
    if ((t.pud? a.uid).isSome ∧ mk) ∧ u = a.uid then { t.pud a.uid with readId := m.seq, recvId := m.seq } else t.pud u := by
  unfold pubTopic
  by_cases h : (t.pud? a.uid).isSome = true ∧ mk = true
  · rw [if_pos h]
    by_cases hu : u = a.uid
    · rw [if_pos ⟨h, hu⟩, hu]; exact pud_setPud ..
    · rw [if_neg (fun h' => hu h'.2)]; exact pud_setPud_other _ hu
  · rw [if_neg h, if_neg (fun h' => h h'.1)]; rfl

theorem pubTopic_eff (t : Topic) (a : Actor) (m : MsgRow) (mk : Bool) (u : Uid) : eff ((pubTopic t a m mk).pud u) = eff (t.pud u) := by
  rw [pubTopic_pud]
  split
  · next h => rw [h.2]; rfl
  · rfl

theorem dataRcpt_pubTopic (t : Topic) (a : Actor) (m : MsgRow) (mk : Bool) (skip : Sid) :
    dataRcpt (pubTopic t a m mk) skip = dataRcpt t skip := by
  unfold dataRcpt Topic.userIsReader
  simp only [pubTopic_sessions, pubTopic_eff]

theorem deliverPub_eq (c : Ctx) (t : Topic) (a : Actor) (m : MsgRow) (mk noEcho : Bool) :
    (c.deliverPub t a m mk noEcho).w = c.w.setLive (pubTopic t a m mk) ∧
    (c.deliverPub t a m mk noEcho).frames = c.frames ++ [(a.sid, ctrl 202 t.name s!" seq={m.seq}")] ++
      (dataRcpt t (if noEcho then a.sid else "")).map (fun x => (x.1, dataFrame t.name a.uid m.seq m.head m.content)) ∧
    (c.deliverPub t a m mk noEcho).routed = c.routed ∧
    (c.deliverPub t a m mk noEcho).pushes = (if (pushRcpt (pubTopic t a m mk)).isEmpty then c.pushes else c.pushes ++
      [s!"push what=msg topic={t.name} seq={m.seq} to=\{{",".intercalate ((pushRcpt (pubTopic t a m mk)).mergeSort (· ≤ ·))}} chan=-"]) := by
  unfold Ctx.deliverPub
  simp only [fanoutData_eq]
  have hT : (if (t.pud? a.uid).isSome = true ∧ mk = true then
        ({ t with lastId := m.seq } : Topic).setPud a.uid { t.pud a.uid with readId := m.seq, recvId := m.seq }
      else { t with lastId := m.seq }) = pubTopic t a m mk := by
    unfold pubTopic; rfl
  rw [hT]
  rw [dataRcpt_pubTopic]
  refine ⟨?_, ?_, ?_, ?_⟩
  · split <;> rfl
  · split <;> simp [Ctx.putLive, Ctx.emit, List.append_assoc]
  · split <;> rfl
  · split <;> rfl

theorem deliverPub_live (c : Ctx) (t : Topic) (a : Actor) (m : MsgRow) (mk noEcho : Bool) :
    (c.deliverPub t a m mk noEcho).w.live? t.name = some (pubTopic t a m mk) := by
  rw [(deliverPub_eq ..).1, ← pubTopic_name t a m mk]
  exact live_setLive ..

end Tinode.World
