/-! Positional notation, least significant digit first, for any base and width: the little-endian byte conversions of the models
(`Uid.bytesLE`/`fromLE`, `Auth.toLE`/`le`) are instances in base 256. -/
namespace Tinode

def ofDigits (b : Nat) : List Nat → Nat
  | [] => 0
  | d :: ds => d + b * ofDigits b ds

def digits (b : Nat) : Nat → Nat → List Nat
  | 0, _ => []
  | n + 1, u => u % b :: digits b n (u / b)

theorem digits_length (b n u : Nat) : (digits b n u).length = n := by
  induction n generalizing u with
  | zero => rfl
  | succ n ih => simp [digits, ih]

theorem digits_lt {b : Nat} (hb : 0 < b) (n u : Nat) : ∀ d ∈ digits b n u, d < b := by
  induction n generalizing u with
  | zero => simp [digits]
  | succ n ih =>
    intro d hd
    rcases List.mem_cons.mp hd with rfl | hd
    · exact Nat.mod_lt _ hb
    · exact ih _ d hd

theorem ofDigits_digits (b n u : Nat) : ofDigits b (digits b n u) = u % b ^ n := by
  induction n generalizing u with
  | zero => simp [digits, ofDigits, Nat.mod_one]
  | succ n ih => rw [digits, ofDigits, ih, Nat.pow_succ', Nat.mod_mul]

theorem ofDigits_digits_of_lt {b n u : Nat} (h : u < b ^ n) : ofDigits b (digits b n u) = u := by
  rw [ofDigits_digits, Nat.mod_eq_of_lt h]

theorem digits_ofDigits {b : Nat} : ∀ {n : Nat} {ds : List Nat}, ds.length = n → (∀ d ∈ ds, d < b) → digits b n (ofDigits b ds) = ds
  | _, [], rfl, _ => rfl
  | _, d :: ds, rfl, h => by
    have hd := h d (by simp)
    rw [List.length_cons, digits, ofDigits, Nat.add_mul_mod_self_left, Nat.mod_eq_of_lt hd,
      Nat.add_mul_div_left _ _ (by omega), Nat.div_eq_of_lt hd, Nat.zero_add,
      digits_ofDigits rfl (fun x hx => h x (by simp [hx]))]

theorem ofDigits_lt {b : Nat} : ∀ (ds : List Nat), (∀ d ∈ ds, d < b) → ofDigits b ds < b ^ ds.length
  | [], _ => by simp [ofDigits]
  | d :: ds, h => by
    have hd := h d (by simp)
    have ih := ofDigits_lt ds (fun x hx => h x (by simp [hx]))
    rw [ofDigits, List.length_cons, Nat.pow_succ']
    calc d + b * ofDigits b ds < b * (ofDigits b ds + 1) := by rw [Nat.mul_add, Nat.mul_one]; omega
      _ ≤ b * b ^ ds.length := Nat.mul_le_mul_left _ ih

end Tinode
