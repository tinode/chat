import TinodeVerif.Model.Election
import TinodeVerif.Proofs.Guards
/-! Leader election as a transition system over the history of granted votes. One invariant (`Inv`) ties every leader, every
open count and every positive reply in flight to votes in that history; every step is one of three moves that keep it
(`evolves_step`), and two majorities of one term share a voter who voted once (`Inv.leader_unique`). What is asked of one node stands in
`NodeOk`, and only the `NodeOk.*` lemmas (and `Inv.majority`) speak of its fields: the three moves pass it through, so a further per-node clause
changes those lemmas alone; a further clause of `Inv` itself has to be kept by the moves `of_node` and `of_grant` (`of_net` passes on what it does not touch). -/
namespace Tinode.Election
open Tinode.Gen.Election

/-! ### facts about the regenerated guards — the proofs about `step` use `Gen.Election` only through these -/
theorem voteGuard_iff (a b : Int) : voteGuard a b = true ↔ a < b := by simp [voteGuard]
theorem voteGrantTerm_eq (a b : Int) : voteGrantTerm a b = b := rfl
theorem electTermStep_gt (a : Int) : a < electTermStep a := by simp only [electTermStep]; omega
theorem healthStale_iff (h m : Int) : healthStale h m = true ↔ h < m := by simp [healthStale]
theorem healthNewer_iff (h m : Int) : healthNewer h m = true ↔ m < h := by simp [healthNewer]
theorem elected_majority (k n : Nat) (h : electedGuard (k : Int) (expectVotes ((n : Int) - 1)) = true) : n < 2 * k := by
  simp [electedGuard, expectVotes] at h
  omega

/-! ### `writesTerm` on string literals

The kernel evaluates `"…".toList` by encoding the literal in UTF-8 and decoding the bytes again, which costs many times what
`writesTermChars` then does with the characters. But a literal is `String.ofList` of its characters: Lean's unifier solves
`"…" =?= String.ofList ?l`, the kernel accepts the solution by unfolding the literal, and `String.toList_ofList` then hands over
the characters without any decoding. -/

theorem writesTerm_comp_ofList : writesTerm ∘ String.ofList = (writesTermChars · true) :=
  funext fun _ => congrArg (writesTermChars · true) String.toList_ofList

/-- one step of writing a list of string literals as `cs.map String.ofList`; unification finds `l` -/
theorem cons_eq_map_ofList (l : List Char) {ps : List String} {cs : List (List Char)} (h : ps = cs.map String.ofList) :
    String.ofList l :: ps = (l :: cs).map String.ofList := h ▸ rfl

theorem setNode_same (w : World) (i : Nat) (x : Node) : (setNode w i x).nodes i = x := by simp [setNode]
theorem setNode_other (w : World) (i k : Nat) (x : Node) (h : k ≠ i) : (setNode w i x).nodes k = w.nodes k := by
  simp [setNode, h]
@[simp] theorem setNode_n (w : World) (i : Nat) (x : Node) : (setNode w i x).n = w.n := rfl
@[simp] theorem setNode_net (w : World) (i : Nat) (x : Node) : (setNode w i x).net = w.net := rfl
@[simp] theorem setNode_granted (w : World) (i : Nat) (x : Node) : (setNode w i x).granted = w.granted := rfl

theorem term_le_setNode (w : World) (j : Nat) (x : Node) (h : (w.nodes j).term ≤ x.term) (i : Nat) :
    (w.nodes i).term ≤ ((setNode w j x).nodes i).term := by
  by_cases hij : i = j
  · subst hij; rwa [setNode_same]
  · rw [setNode_other _ _ _ _ hij]; exact Int.le_refl _

theorem mem_others (n i j : Nat) : j ∈ others n i ↔ j < n ∧ j ≠ i := by simp [others]

/-- A message may be in flight when the vote history is `g`. -/
def MsgOk (g : List (Nat × Int × Nat)) : Msg → Prop
  | .voteResp v c t true _ => (v, t, c) ∈ g
  | .health l j _ => l ≠ j
  | _ => True

theorem MsgOk.mono {g g' : List (Nat × Int × Nat)} (h : g ⊆ g') : ∀ {m : Msg}, MsgOk g m → MsgOk g' m
  | .voteResp _ _ _ true _, hm => h hm
  | .voteResp _ _ _ false _, _ => trivial
  | .health .., hm => hm
  | .voteReq .., _ => trivial

/-- `vs` are distinct nodes whose votes for `c` in term `t` are in the history `g` -/
def Votes (g : List (Nat × Int × Nat)) (t : Int) (c : Nat) (vs : List Nat) : Prop :=
  vs.Nodup ∧ ∀ v ∈ vs, (v, t, c) ∈ g

/-- Node `i` of `n` may be in state `x` when the vote history is `g`. -/
structure NodeOk (n : Nat) (g : List (Nat × Int × Nat)) (i : Nat) (x : Node) : Prop where
  /-- an open election has no leader yet and has counted only votes that were cast, each once -/
  counting : ∀ vs, x.electing = some vs → x.leader = none ∧ Votes g x.term i vs
  /-- a node that considers itself leader has been voted for by a majority in its term -/
  elected : x.leader = some i →
    ∃ vs, Votes g x.term i vs ∧ electedGuard (vs.length : Int) (expectVotes ((n : Int) - 1)) = true

namespace NodeOk
variable {n : Nat} {g : List (Nat × Int × Nat)} {i : Nat} {x : Node}

theorem mono {g' : List (Nat × Int × Nat)} (hg : g ⊆ g') (h : NodeOk n g i x) : NodeOk n g' i x where
  counting vs he := ⟨(h.counting vs he).1, (h.counting vs he).2.1, fun v hv => hg ((h.counting vs he).2.2 v hv)⟩
  elected hl := let ⟨vs, hv, hm⟩ := h.elected hl; ⟨vs, ⟨hv.1, fun v hv' => hg (hv.2 v hv')⟩, hm⟩

theorem idle (hl : x.leader ≠ some i) (he : x.electing = none) : NodeOk n g i x where
  counting vs h := by rw [he] at h; cases h
  elected h := absurd h hl

/-- `electLeader` starts: the candidate has its own vote -/
theorem stand (t : Int) : NodeOk n ((i, t, i) :: g) i { term := t, leader := none, electing := some [i] } where
  counting vs h := by cases h; exact ⟨rfl, by simp [Votes]⟩
  elected := nofun

theorem count {vs : List Nat} {v : Nat} (h : NodeOk n g i x) (he : x.electing = some vs) (hv : (v, x.term, i) ∈ g) :
    NodeOk n g i { x with electing := some (if v ∈ vs then vs else v :: vs) } where
  counting vs' h' := by
    cases h'
    refine ⟨(h.counting vs he).1, ?_⟩
    split
    · exact (h.counting vs he).2
    · next hn => exact ⟨List.nodup_cons.mpr ⟨hn, (h.counting vs he).2.1⟩,
        List.forall_mem_cons.mpr ⟨hv, (h.counting vs he).2.2⟩⟩
  elected hl := by rw [(h.counting vs he).1] at hl; cases hl

theorem win {vs : List Nat} (h : NodeOk n g i x) (he : x.electing = some vs)
    (hg : electedGuard (vs.length : Int) (expectVotes ((n : Int) - 1)) = true) :
    NodeOk n g i { x with leader := some i, electing := none } where
  counting := nofun
  elected _ := ⟨vs, (h.counting vs he).2, hg⟩

theorem lose {vs : List Nat} (h : NodeOk n g i x) (he : x.electing = some vs) : NodeOk n g i { x with electing := none } :=
  idle (by rw [(h.counting vs he).1]; nofun) rfl

end NodeOk

/-- What holds in every state of every schedule (`inv_reachable`). `(v, t, c) ∈ w.granted`: node `v` has voted for `c` in
term `t`. -/
structure Inv (w : World) : Prop where
  /-- a node's votes are of terms up to its own -/
  gterm : ∀ v t c, (v, t, c) ∈ w.granted → t ≤ (w.nodes v).term
  /-- one vote per node and term -/
  gfun : ∀ v t c c', (v, t, c) ∈ w.granted → (v, t, c') ∈ w.granted → c = c'
  /-- only configured nodes vote -/
  glt : ∀ v t c, (v, t, c) ∈ w.granted → v < w.n
  net : ∀ m ∈ w.net, MsgOk w.granted m
  node : ∀ i, NodeOk w.n w.granted i (w.nodes i)

theorem inv_init (n : Nat) : Inv (init n) where
  gterm := nofun
  gfun := nofun
  glt := nofun
  net := nofun
  node _ := .idle nofun rfl

/-- The messages in flight after a step: some that were in flight before it, and new ones that the vote history `g` allows. -/
def Sent (w : World) (g : List (Nat × Int × Nat)) (net' : List Msg) : Prop := ∀ m ∈ net', m ∈ w.net ∨ MsgOk g m

namespace Sent
variable {w : World} {g : List (Nat × Int × Nat)}

theorem refl : Sent w g w.net := fun _ => .inl

theorem erase (k : Nat) : Sent w g (w.net.eraseIdx k) := fun _ hm => .inl (List.mem_of_mem_eraseIdx hm)

theorem append {l l' : List Msg} (h : Sent w g l) (h' : ∀ m ∈ l', MsgOk g m) : Sent w g (l ++ l') :=
  List.forall_mem_append.mpr ⟨h, fun m hm => .inr (h' m hm)⟩

theorem msgOk {net' : List Msg} (h : Sent w g net') (hw : Inv w) (hg : w.granted ⊆ g) : ∀ m ∈ net', MsgOk g m :=
  fun m hm => (h m hm).elim (fun h => (hw.net m h).mono hg) id

end Sent

/-- `w'` comes after `w`: all that the theorems about steps and runs need -/
structure Evolves (w w' : World) : Prop where
  n : w'.n = w.n
  term : ∀ i, (w.nodes i).term ≤ (w'.nodes i).term
  inv : Inv w → Inv w'

theorem Evolves.refl (w : World) : Evolves w w := ⟨rfl, fun _ => Int.le_refl _, id⟩

theorem Evolves.trans {w w₁ w₂ : World} (h₁ : Evolves w w₁) (h₂ : Evolves w₁ w₂) : Evolves w w₂ :=
  ⟨h₂.n.trans h₁.n, fun i => Int.le_trans (h₁.term i) (h₂.term i), h₂.inv ∘ h₁.inv⟩

/-! Every enabled step is one of these three moves. -/

theorem Evolves.of_net (w : World) (net' : List Msg) (h : Sent w w.granted net') : Evolves w { w with net := net' } where
  n := rfl
  term _ := Int.le_refl _
  inv hw := { hw with net := h.msgOk hw (List.Subset.refl _) }

theorem Evolves.of_node (w : World) (j : Nat) (x : Node) (net' : List Msg) (hle : (w.nodes j).term ≤ x.term)
    (hx : Inv w → NodeOk w.n w.granted j x) (h : Sent w w.granted net') :
    Evolves w { setNode w j x with net := net' } where
  n := rfl
  term := term_le_setNode w j x hle
  inv hw :=
    { gterm := fun v t c h => Int.le_trans (hw.gterm v t c h) (term_le_setNode w j x hle v)
      gfun := hw.gfun
      glt := hw.glt
      net := h.msgOk hw (List.Subset.refl _)
      node := fun i => by
        by_cases hi : i = j
        · subst hi; exact (setNode_same w i x).symm ▸ hx hw
        · exact (setNode_other w j i x hi).symm ▸ hw.node i }

theorem Evolves.of_grant (w : World) (j c : Nat) (x : Node) (net' : List Msg) (hlt : (w.nodes j).term < x.term) (hj : j < w.n)
    (hx : NodeOk w.n ((j, x.term, c) :: w.granted) j x) (h : Sent w ((j, x.term, c) :: w.granted) net') :
    Evolves w { setNode w j x with net := net', granted := (j, x.term, c) :: w.granted } where
  n := rfl
  term := term_le_setNode w j x (Int.le_of_lt hlt)
  inv hw := by
    -- the votes `j` has cast so far are of terms up to its old one
    have fresh : ∀ c', (j, x.term, c') ∉ w.granted := fun c' h => by have := hw.gterm _ _ _ h; omega
    refine ⟨fun v t c' h => ?_, fun v t c₁ c₂ h₁ h₂ => ?_, fun v t c' h => ?_,
      h.msgOk hw (List.subset_cons_self ..), fun i => ?_⟩
    · rcases List.mem_cons.mp h with e | h
      · cases e; exact (setNode_same w j x).symm ▸ Int.le_refl _
      · exact Int.le_trans (hw.gterm v t c' h) (term_le_setNode w j x (Int.le_of_lt hlt) v)
    · rcases List.mem_cons.mp h₁ with e₁ | h₁ <;> rcases List.mem_cons.mp h₂ with e₂ | h₂
      · cases e₁; cases e₂; rfl
      · cases e₁; exact absurd h₂ (fresh _)
      · cases e₂; exact absurd h₁ (fresh _)
      · exact hw.gfun v t c₁ c₂ h₁ h₂
    · rcases List.mem_cons.mp h with e | h
      · cases e; exact hj
      · exact hw.glt v t c' h
    · by_cases hi : i = j
      · subst hi; exact (setNode_same w i x).symm ▸ hx
      · exact (setNode_other w j i x hi).symm ▸ (hw.node i).mono (List.subset_cons_self ..)

theorem Evolves.ite {w : World} {c : Prop} [Decidable c] {x y : Option World} (hx : c → Evolves w (x.getD w))
    (hy : ¬c → Evolves w (y.getD w)) : Evolves w ((if c then x else y).getD w) :=
  ite_ind (P := fun r : Option World => Evolves w (r.getD w)) hx hy

theorem evolves_step (w : World) (a : Act) : Evolves w ((step w a).getD w) := by
  cases a with
  | timeout i =>
    refine .ite (fun h => ?_) fun _ => .refl w
    exact .of_grant w i i ⟨electTermStep (w.nodes i).term, none, some [i]⟩ _ (electTermStep_gt _) h.1 (.stand _)
      (Sent.refl.append (by simp [MsgOk]))
  | drop k => exact .ite (fun _ => .of_net w _ (.erase k)) fun _ => .refl w
  | heartbeat i =>
    refine .ite (fun _ => ?_) fun _ => .refl w
    exact .of_net w _ (Sent.refl.append (List.forall_mem_map.mpr fun j hj => ((mem_others _ _ _).mp hj).2.symm))
  | finish i =>
    simp only [step]
    split
    next vs he =>
      refine .ite (fun hg => ?_) fun _ => ?_
      · exact .of_node w i _ _ (Int.le_refl _) (fun hw => (hw.node i).win he hg) .refl
      · exact .of_node w i _ _ (Int.le_refl _) (fun hw => (hw.node i).lose he) .refl
    next => exact .refl w
  | deliver k =>
    simp only [step]
    split
    next => exact .refl w
    next m hm =>
      have hmem : m ∈ w.net := List.mem_of_getElem? hm
      have gone : Evolves w { w with net := w.net.eraseIdx k } := .of_net w _ (.erase k)
      split
      next c j t =>
        refine .ite (fun _ => .refl w) fun hfree => ?_
        simp only [not_or, Decidable.not_not] at hfree
        refine .ite (fun hg => ?_) fun _ => ?_
        · rw [voteGrantTerm_eq]
          exact .of_grant w j c ⟨t, none, none⟩ _ ((voteGuard_iff _ _).mp hg) hfree.2 (.idle nofun rfl)
            ((Sent.erase k).append (by simp [MsgOk]))
        · exact .of_net w _ ((Sent.erase k).append (by simp [MsgOk]))
      next v c t yes vt =>
        split
        next vs he =>
          refine .ite (fun ht => ?_) fun _ => gone
          refine .ite (fun hy => ?_) fun _ => ?_
          · subst hy
            exact .of_node w c _ _ (Int.le_refl _) (fun hw => (hw.node c).count he (ht ▸ hw.net _ hmem)) (.erase k)
          refine .ite (fun _ => ?_) fun _ => gone
          exact .of_node w c _ _ (Int.le_refl _) (fun hw => (hw.node c).lose he) (.erase k)
        next => exact gone
      next l j t =>
        refine .ite (fun _ => .refl w) fun hfree => ?_
        simp only [Decidable.not_not] at hfree
        -- whatever the node's state becomes, it keeps no election open and does not make itself leader
        have idle : ∀ x : Node, x.leader = some l → x.electing = none → Inv w → NodeOk w.n w.granted j x :=
          fun x hl he hw => .idle (by rw [hl]; exact fun e => hw.net _ hmem (Option.some.inj e)) he
        refine .ite (fun _ => gone) fun _ => ?_
        refine .ite (fun hnew => ?_) fun _ => ?_
        · exact .of_node w j _ _ (Int.le_of_lt ((healthNewer_iff _ _).mp hnew)) (idle _ rfl hfree) (.erase k)
        refine .ite (fun _ => ?_) fun _ => gone
        exact .of_node w j _ _ (Int.le_refl _) (idle _ rfl hfree) (.erase k)

theorem evolves_run (w : World) (acts : List Act) : Evolves w (run w acts) := by
  induction acts generalizing w with
  | nil => exact .refl w
  | cons a as ih => exact (evolves_step w a).trans (ih _)

theorem inv_reachable (n : Nat) (acts : List Act) : Inv (run (init n) acts) ∧ (run (init n) acts).n = n :=
  ⟨(evolves_run _ acts).inv (inv_init n), (evolves_run _ acts).n⟩

theorem Inv.majority {w : World} (hw : Inv w) {i : Nat} (h : (w.nodes i).leader = some i) :
    ∃ vs, Votes w.granted (w.nodes i).term i vs ∧ w.n < 2 * vs.length :=
  let ⟨vs, hv, hg⟩ := (hw.node i).elected h
  ⟨vs, hv, elected_majority _ _ hg⟩

/-- Two majorities among `w.n` nodes share a voter, and its one vote of the term went to both. -/
theorem Inv.leader_unique {w : World} (hw : Inv w) {i j : Nat} (hi : (w.nodes i).leader = some i)
    (hj : (w.nodes j).leader = some j) (ht : (w.nodes i).term = (w.nodes j).term) : i = j := by
  obtain ⟨vi, ⟨ndi, gi⟩, mi⟩ := hw.majority hi
  obtain ⟨vj, ⟨ndj, gj⟩, mj⟩ := hw.majority hj
  by_cases hd : ∃ a ∈ vi, a ∈ vj
  · obtain ⟨a, ha, hb⟩ := hd
    exact hw.gfun a _ i j (gi a ha) (ht ▸ gj a hb)
  · have hnd : (vi ++ vj).Nodup := List.nodup_append.mpr ⟨ndi, ndj, fun a ha b hb e => hd ⟨a, ha, e ▸ hb⟩⟩
    have hsub : vi ++ vj ⊆ List.range w.n := fun a ha =>
      List.mem_range.mpr <| (List.mem_append.mp ha).elim (fun h => hw.glt _ _ _ (gi a h)) (fun h => hw.glt _ _ _ (gj a h))
    have := hnd.length_le_of_subset hsub
    simp only [List.length_append, List.length_range] at this
    omega

end Tinode.Election
