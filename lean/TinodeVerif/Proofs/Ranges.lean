import TinodeVerif.Model.Ranges
/-! `Normalize` read through the set of ids a list of ranges denotes (`memList`): once a range is seen as the interval
`[low, upper)`, sorting and merging keep that set, and what comes out is a chain of intervals with a gap between any two. -/
namespace Tinode.Ranges

/-- what the callers guarantee about each entry (topic.go:3192-3215) -/
def Range.WF (r : Range) : Prop := 0 ≤ r.low ∧ (r.hi = 0 ∨ r.low < r.hi)

instance (r : Range) : Decidable r.WF := by unfold Range.WF; infer_instance

/-- Past `upper_single`, `upper_mk` and `less_iff` the encoding of a single id by `hi = 0` plays no part: the specifications are said in terms of `low` and `upper`. -/
theorem Range.wf_iff (r : Range) : r.WF ↔ 0 ≤ r.low ∧ r.low < upper r := by
  unfold Range.WF upper
  omega

theorem upper_single (l : Int) : upper ⟨l, 0⟩ = l + 1 := if_pos rfl

theorem upper_mk {l h : Int} (hh : h ≠ 0) : upper ⟨l, h⟩ = h := if_neg hh

theorem memList_nil (x : Int) : ¬ memList [] x := by simp [memList]

theorem memList_cons (r : Range) (rs : List Range) (x : Int) :
    memList (r :: rs) x ↔ (r.mem x ∨ memList rs x) := by
  simp [memList]

theorem less_iff (a b : Range) : less a b = true ↔ a.low < b.low ∨ a.low = b.low ∧ b.hi ≤ a.hi := by
  simp [less]

theorem mem_sortRanges {r : Range} {rs : List Range} : r ∈ sortRanges rs ↔ r ∈ rs :=
  List.mem_mergeSort

theorem memList_sortRanges (rs : List Range) (x : Int) : memList (sortRanges rs) x ↔ memList rs x := by
  simp only [memList, mem_sortRanges]

theorem sortRanges_sorted (rs : List Range) : (sortRanges rs).Pairwise (fun a b => a.low ≤ b.low) := by
  refine (List.pairwise_mergeSort (le := less) ?_ ?_ rs).imp ?_
  · intro a b c; rw [less_iff, less_iff, less_iff]; omega
  · intro a b; rw [Bool.or_eq_true, less_iff, less_iff]; omega
  · intro a b; rw [less_iff]; omega

theorem merge_spec {acc cur : Range} (hacc : acc.WF) (hle : acc.low ≤ cur.low) (hov : upper acc ≥ cur.low) :
    let m := if upper acc < upper cur then { acc with hi := upper cur } else acc
    m.WF ∧ m.low = acc.low ∧ ∀ x, m.mem x ↔ acc.mem x ∨ cur.mem x := by
  intro m
  rw [Range.wf_iff] at hacc ⊢
  unfold Range.mem
  by_cases hlt : upper acc < upper cur
  · have hu : upper { acc with hi := upper cur } = upper cur := upper_mk (by omega)
    simp only [m, if_pos hlt, hu]
    exact ⟨by omega, trivial, fun x => by omega⟩
  · simp only [m, if_neg hlt]
    exact ⟨hacc, trivial, fun x => by omega⟩

theorem normAux_spec (acc : Range) (rest : List Range) (hacc : acc.WF)
    (hrest : ∀ r ∈ rest, r.WF ∧ acc.low ≤ r.low) (hs : rest.Pairwise (fun a b => a.low ≤ b.low)) :
    (∀ x, memList (normAux acc rest) x ↔ acc.mem x ∨ memList rest x) ∧
    (∀ r ∈ normAux acc rest, r.WF ∧ acc.low ≤ r.low) ∧
    (normAux acc rest).Pairwise (fun a b => upper a < b.low) := by
  induction rest generalizing acc with
  | nil => simp [normAux, memList_cons, memList_nil, hacc]
  | cons cur rest ih =>
    obtain ⟨⟨hcur, hle⟩, hrest⟩ := List.forall_mem_cons.mp hrest
    obtain ⟨hlow, hs⟩ := List.pairwise_cons.mp hs
    rw [normAux]
    split
    · next hov =>
      obtain ⟨hm, hml, hmem⟩ := merge_spec hacc hle hov
      -- only these three facts about the merged range are used: forget how it is built
      generalize (if upper acc < upper cur then ({ acc with hi := upper cur } : Range) else acc) = m at *
      obtain ⟨h1, h2, h3⟩ := ih m hm (hml ▸ hrest) hs
      refine ⟨fun x => ?_, hml ▸ h2, h3⟩
      rw [h1, hmem, memList_cons, or_assoc]
    · next hno =>
      obtain ⟨h1, h2, h3⟩ := ih cur hcur (fun r hr => ⟨(hrest r hr).1, hlow r hr⟩) hs
      refine ⟨fun x => ?_, ?_, List.pairwise_cons.mpr ⟨fun b hb => ?_, h3⟩⟩
      · rw [memList_cons, h1, memList_cons]
      · exact List.forall_mem_cons.mpr ⟨⟨hacc, Int.le_refl _⟩, fun r hr => ⟨(h2 r hr).1, Int.le_trans hle (h2 r hr).2⟩⟩
      · exact Int.lt_of_lt_of_le (Int.not_le.mp hno) (h2 b hb).2

theorem normalize_spec (l : List Range) (hwf : ∀ r ∈ l, r.WF) (hs : l.Pairwise (fun a b => a.low ≤ b.low)) :
    (∀ x, memList (normalize l) x ↔ memList l x) ∧
    (∀ r ∈ normalize l, r.WF) ∧
    (normalize l).Pairwise (fun a b => upper a < b.low) := by
  cases l with
  | nil => simp [normalize]
  | cons a l =>
    obtain ⟨ha, hwf⟩ := List.forall_mem_cons.mp hwf
    obtain ⟨hlow, hs⟩ := List.pairwise_cons.mp hs
    obtain ⟨h1, h2, h3⟩ := normAux_spec a l ha (fun r hr => ⟨hwf r hr, hlow r hr⟩) hs
    exact ⟨fun x => (h1 x).trans (memList_cons ..).symm, fun r hr => (h2 r hr).1, h3⟩

end Tinode.Ranges
