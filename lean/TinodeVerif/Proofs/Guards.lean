/-! The handlers of the models are chains of guards: `if c₁ then exit₁ else if c₂ then exit₂ else …`. These lemmas pass one guard at a
time - in the goal (`ite_ind`), in a hypothesis (`passed`) or in an equation (`guard_eq_iff`) - without rewriting the rest of the handler: `split` would run `simp` over
the whole goal at every step, which is slow once a handler has been unfolded in it. -/
namespace Tinode

/-- With the property stated as a predicate `P` on the result (a definition, or `(P := …)`) this applies by first-order
unification. -/
theorem ite_ind {α} {P : α → Prop} {c : Prop} [Decidable c] {x y : α} (hx : c → P x) (hy : ¬c → P y) : P (if c then x else y) := by
  by_cases h : c
  · rw [if_pos h]; exact hx h
  · rw [if_neg h]; exact hy h

/-- Rewriting with it turns a cascade of checks, none of whose refusals `a` is the answer `y` asked about, into the conjunction
of its checks. -/
theorem guard_eq_iff {α} {c : Prop} [Decidable c] {a x y : α} (hne : a ≠ y) : (if c then a else x) = y ↔ ¬c ∧ x = y := by
  by_cases hc : c
  · rw [if_pos hc]; exact ⟨fun e => (hne e).elim, fun e => (e.1 hc).elim⟩
  · rw [if_neg hc]; exact ⟨fun e => ⟨hc, e⟩, fun e => e.2⟩

theorem passed {α} {c : Prop} [Decidable c] {a x y : α} (h : (if c then a else x) = y) (hne : a ≠ y) : ¬c ∧ x = y :=
  (guard_eq_iff hne).mp h

end Tinode
