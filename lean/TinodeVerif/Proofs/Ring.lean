import TinodeVerif.Model.Ring
/-! The ring is the only sorted arrangement of the nodes' replicas (`eq_ring`), hence removing nodes filters it. `get` answers
through a single replica (`owner`), which filtering leaves in place unless it is removed itself. -/
namespace Tinode.Ring

/-- what is assumed of the order on node names (`String`'s `≤` meets it by `String.le_total`, `le_trans`, `le_antisymm`; no instance is given here) -/
structure TotalOrder (kle : String → String → Bool) : Prop where
  total : ∀ a b, kle a b || kle b a
  trans : ∀ a b c, kle a b → kle b c → kle a c
  antisymm : ∀ a b, kle a b → kle b a → a = b

variable {kle : String → String → Bool}

theorem ele_iff (a b : Elem) :
    ele kle a b = true ↔ a.hash < b.hash ∨ a.hash = b.hash ∧ kle a.key b.key = true := by
  simp [ele]

theorem ele_total (h : TotalOrder kle) (a b : Elem) : (ele kle a b || ele kle b a) = true := by
  rw [Bool.or_eq_true, ele_iff, ele_iff]
  rcases Nat.lt_trichotomy a.hash b.hash with h1 | h1 | h1
  · exact .inl (.inl h1)
  · exact (Bool.or_eq_true _ _ ▸ h.total a.key b.key).imp (.inr ⟨h1, ·⟩) (.inr ⟨h1.symm, ·⟩)
  · exact .inr (.inl h1)

theorem ele_trans (h : TotalOrder kle) (a b c : Elem) : ele kle a b = true → ele kle b c = true → ele kle a c = true := by
  simp only [ele_iff]
  rintro (h1 | ⟨h1, h2⟩) (h3 | ⟨h3, h4⟩)
  · exact .inl (by omega)
  · exact .inl (by omega)
  · exact .inl (by omega)
  · exact .inr ⟨by omega, h.trans _ _ _ h2 h4⟩

theorem ele_antisymm (h : TotalOrder kle) (a b : Elem) : ele kle a b = true → ele kle b a = true → a = b := by
  simp only [ele_iff]
  rintro (h1 | ⟨h1, h2⟩) (h3 | ⟨h3, h4⟩)
  · omega
  · omega
  · omega
  · cases a; cases b; exact congr (congrArg Elem.mk h1) (h.antisymm _ _ h2 h4)

theorem ring_sorted (h : TotalOrder kle) (hash : String → Nat) (n : Nat) (nodes : List String) :
    (ring kle hash n nodes).Pairwise (fun a b => ele kle a b = true) :=
  List.pairwise_mergeSort (le := ele kle) (fun a b c => ele_trans h a b c) (fun a b => ele_total h a b) _

theorem ring_perm (hash : String → Nat) (n : Nat) (nodes : List String) :
    (ring kle hash n nodes).Perm (elemsOf hash n nodes) := List.mergeSort_perm _ _

/-- also the way to evaluate a concrete ring: `decide` cannot run `List.mergeSort` (well-founded recursion; `simp [List.mergeSort]` can), but it decides `Perm` and
`Pairwise` of a list written out -/
theorem eq_ring (h : TotalOrder kle) {hash : String → Nat} {n : Nat} {nodes : List String} {l : List Elem}
    (hp : l.Perm (elemsOf hash n nodes)) (hs : l.Pairwise (fun a b => ele kle a b = true)) : l = ring kle hash n nodes :=
  List.Perm.eq_of_pairwise (fun a b _ _ => ele_antisymm h a b) hs (ring_sorted h hash n nodes)
    (hp.trans (ring_perm hash n nodes).symm)

theorem key_mem_of_mem_elemsOf {hash : String → Nat} {n : Nat} {nodes : List String} {e : Elem} (he : e ∈ elemsOf hash n nodes) :
    e.key ∈ nodes := by
  obtain ⟨a, ha, he⟩ := List.mem_flatMap.mp he
  obtain ⟨i, _, rfl⟩ := List.mem_map.mp he
  exact ha

theorem elemsOf_filter (hash : String → Nat) (n : Nat) (nodes : List String) (p : String → Bool) :
    elemsOf hash n (nodes.filter p) = (elemsOf hash n nodes).filter (fun e => p e.key) := by
  induction nodes with
  | nil => rfl
  | cons a l ih =>
    unfold elemsOf at *
    rw [List.flatMap_cons, List.filter_append, List.filter_map, ← ih, List.filter_cons, Function.comp_def]
    -- the replicas of `a` all stay or all go
    by_cases hp : p a
    · rw [if_pos hp, List.flatMap_cons, List.filter_eq_self.mpr fun _ _ => hp]
    · rw [if_neg hp, List.filter_eq_nil_iff.mpr fun _ _ => hp]; rfl

theorem ring_filter (h : TotalOrder kle) (hash : String → Nat) (n : Nat) (nodes : List String) (p : String → Bool) :
    ring kle hash n (nodes.filter p) = (ring kle hash n nodes).filter (fun e => p e.key) :=
  (eq_ring h (elemsOf_filter hash n nodes p ▸ (ring_perm hash n nodes).filter _) ((ring_sorted h hash n nodes).filter _)).symm

/-- the replica `get` answers with: the first one clockwise from the key's point, or else the first of the ring -/
def owner (kle : String → String → Bool) (hash : String → Nat) (r : List Elem) (k : String) : Option Elem :=
  (r.find? fun el => decide (el.hash > hash k) || (el.hash == hash k && kle k el.key)).or r.head?

theorem get_eq (hash : String → Nat) (r : List Elem) (k : String) :
    get kle hash r k = ((owner kle hash r k).map (·.key)).getD "" := by
  unfold get owner
  cases r with
  | nil => rfl
  | cons a r => cases List.find? _ (a :: r) <;> rfl

variable {hash : String → Nat} {r : List Elem} {k : String} {e : Elem}

theorem owner_mem (h : owner kle hash r k = some e) : e ∈ r := by
  rcases Option.or_eq_some_iff.mp h with h | ⟨_, h⟩
  · exact List.mem_of_find?_eq_some h
  · exact List.mem_of_head? h

theorem owner_eq_none (h : owner kle hash r k = none) : r = [] :=
  List.head?_eq_none_iff.mp (Option.or_eq_none_iff.mp h).2

theorem find?_or_head?_filter {α} {l : List α} {p q : α → Bool} {e : α} (h : (l.find? q).or l.head? = some e)
    (hp : p e = true) : ((l.filter p).find? q).or (l.filter p).head? = some e := by
  -- it is the head of `l.filter q ++ l`, and filtering commutes with all of that
  rw [← List.head?_filter, ← List.head?_append] at h ⊢
  obtain ⟨tl, htl⟩ := List.head?_eq_some_iff.mp h
  have hpq : (l.filter p).filter q = (l.filter q).filter p := by simp only [List.filter_filter, Bool.and_comm]
  rw [hpq, ← List.filter_append, htl, List.filter_cons_of_pos hp]
  rfl

theorem get_filter (p : String → Bool) (hp : p (get kle hash r k) = true) :
    get kle hash (r.filter fun e => p e.key) k = get kle hash r k := by
  rw [get_eq] at hp
  rw [get_eq, get_eq]
  cases ho : owner kle hash r k with
  | none => rw [owner_eq_none ho]; rfl
  | some e => rw [ho] at hp; rw [show owner kle hash (r.filter _) k = some e from find?_or_head?_filter ho hp]

/-- Removing any set of nodes moves only the keys they owned. -/
theorem ring_filter_minimal (h : TotalOrder kle) (n : Nat) (nodes : List String) (p : String → Bool)
    (hk : p (get kle hash (ring kle hash n nodes) k) = true) :
    get kle hash (ring kle hash n (nodes.filter p)) k = get kle hash (ring kle hash n nodes) k := by
  rw [ring_filter h, get_filter p hk]

end Tinode.Ring
