import TinodeVerif.Proofs.Acs
/-! Permission predicates as tests of single bits, `isX m = m.getLsbD k` (`isX_bit`); hence each distributes over `&&&`
(`isX_and`, by `and_of_bit`) and over `|||` (`or_of_bit isX_bit`), and fails once its bit is cleared (`clear_of_bit isX_bit rfl`). `isAdmin` (O or A)
and `isSharer` (O, A or S) test more than one bit and are outside this scheme. -/
namespace Tinode.Acs

theorem bit_test (m : Mode) (k : Nat) : decide (m &&& 1#32 <<< k ≠ 0) = m.getLsbD k := by
  rw [← ite_bit m k]
  cases h : m.getLsbD k
  · simp
  · have hk := BitVec.lt_of_getLsbD h
    -- `1 <<< k` is not zero: its bit `k` is set
    have : (1#32 <<< k).getLsbD k = true := by simp [hk]
    simpa using fun e : 1#32 <<< k = 0 => by simp [e] at this

theorem isJoiner_bit (m : Mode) : isJoiner m = m.getLsbD 0 := bit_test m 0
theorem isReader_bit (m : Mode) : isReader m = m.getLsbD 1 := bit_test m 1
theorem isWriter_bit (m : Mode) : isWriter m = m.getLsbD 2 := bit_test m 2
theorem isPresencer_bit (m : Mode) : isPresencer m = m.getLsbD 3 := bit_test m 3
theorem isApprover_bit (m : Mode) : isApprover m = m.getLsbD 4 := bit_test m 4
theorem isDeleter_bit (m : Mode) : isDeleter m = m.getLsbD 6 := bit_test m 6
theorem isOwner_bit (m : Mode) : isOwner m = m.getLsbD 7 := bit_test m 7

theorem and_of_bit {p : Mode → Bool} {k : Nat} (h : ∀ m, p m = m.getLsbD k) (w g : Mode) :
    p (w &&& g) = (p w && p g) := by
  rw [h, h, h, BitVec.getLsbD_and]

theorem isJoiner_and (w g : Mode) : isJoiner (w &&& g) = (isJoiner w && isJoiner g) := and_of_bit isJoiner_bit w g
theorem isReader_and (w g : Mode) : isReader (w &&& g) = (isReader w && isReader g) := and_of_bit isReader_bit w g
theorem isWriter_and (w g : Mode) : isWriter (w &&& g) = (isWriter w && isWriter g) := and_of_bit isWriter_bit w g
theorem isPresencer_and (w g : Mode) : isPresencer (w &&& g) = (isPresencer w && isPresencer g) :=
  and_of_bit isPresencer_bit w g
theorem isApprover_and (w g : Mode) : isApprover (w &&& g) = (isApprover w && isApprover g) :=
  and_of_bit isApprover_bit w g
theorem isDeleter_and (w g : Mode) : isDeleter (w &&& g) = (isDeleter w && isDeleter g) :=
  and_of_bit isDeleter_bit w g
theorem isOwner_and (w g : Mode) : isOwner (w &&& g) = (isOwner w && isOwner g) := and_of_bit isOwner_bit w g

theorem or_of_bit {p : Mode → Bool} {k : Nat} (h : ∀ m, p m = m.getLsbD k) (w g : Mode) :
    p (w ||| g) = (p w || p g) := by
  rw [h, h, h, BitVec.getLsbD_or]

theorem clear_of_bit {p : Mode → Bool} {k : Nat} (h : ∀ m, p m = m.getLsbD k) {c : Mode} (hc : p c = true) (m : Mode) :
    p (m &&& ~~~c) = false := by
  rw [h] at hc
  rw [h, BitVec.getLsbD_and, BitVec.getLsbD_not, hc, Bool.not_true, Bool.and_false, Bool.and_false]

theorem isOwner_clear (m : Mode) : isOwner (m &&& ~~~modeOwner) = false := clear_of_bit isOwner_bit rfl m

end Tinode.Acs
