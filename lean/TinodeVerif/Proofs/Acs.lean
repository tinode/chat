import TinodeVerif.Model.Acs
import TinodeVerif.Proofs.Lists
/-! Lemmas on the access-mode model for C05: a permission set written out by `letters` parses back to
itself, one iteration of the ApplyDelta loop over such a chunk, and the shape and effect of `Delta`.
A permission set is a mode within `modeBitmask` (`x &&& modeBitmask = x`); the lemmas about staying within a mask (`mask_within`,
`and_within`, `or_within`, `and_not_of_within`) hold for any mask and serve C02c, C03y and C07p as well. -/
namespace Tinode.Acs

theorem lettersFrom_sublist (i : Nat) (tbl : List Char) (m : Mode) :
    (lettersFrom i tbl m).Sublist tbl := by
  induction tbl generalizing i with
  | nil => exact .slnil
  | cons t ts ih =>
    rw [lettersFrom]
    split
    · exact (ih _).cons_cons t
    · exact (ih _).cons t

theorem letters_noSign (m : Mode) : ∀ c ∈ letters m, isSign c = false := fun c hc =>
  (by decide : ∀ c ∈ letterTable, isSign c = false) c ((lettersFrom_sublist 0 _ m).subset hc)

theorem letters_noN (m : Mode) : ∀ c ∈ letters m, c ≠ 'N' := fun c hc =>
  (by decide : ∀ c ∈ letterTable, c ≠ 'N') c ((lettersFrom_sublist 0 _ m).subset hc)

theorem ite_bit (m : Mode) (k : Nat) :
    (if m.getLsbD k then 1#32 <<< k else 0#32) = m &&& 1#32 <<< k := by
  rw [← BitVec.twoPow_eq, BitVec.and_twoPow]

theorem parseLoop_lettersFrom (tbl : List Char) (i : Nat) (m acc : Mode)
    (h : ∀ p ∈ tbl.zipIdx i, letterBit p.1 = some (1#32 <<< p.2)) :
    parseLoop (lettersFrom i tbl m) acc =
      .ok (acc ||| (m &&& tbl.foldr (fun c a => (letterBit c).getD 0 ||| a) 0)) := by
  induction tbl generalizing i acc with
  | nil => simp [lettersFrom, parseLoop]
  | cons c cs ih =>
    rw [List.zipIdx_cons, List.forall_mem_cons] at h
    have step : parseLoop (lettersFrom i (c :: cs) m) acc
        = parseLoop (lettersFrom (i+1) cs m) (acc ||| (m &&& 1#32 <<< i)) := by
      rw [← ite_bit, lettersFrom]
      cases m.getLsbD i <;> simp [parseLoop, h.1]
    rw [step, ih _ _ h.2, List.foldr_cons, h.1, Option.getD_some, BitVec.or_assoc,
      ← BitVec.and_or_distrib_left]

theorem parseLoop_letters (m acc : Mode) :
    parseLoop (letters m) acc = .ok (acc ||| (m &&& modeBitmask)) :=
  parseLoop_lettersFrom letterTable 0 m acc (by decide +kernel)

theorem unset_and_mask : modeUnset &&& modeBitmask = 0#32 := by decide

theorem parseAcs_letters (x : Mode) (hx : x &&& modeBitmask = x) :
    parseAcs (letters x) = .ok (modeUnset ||| x) := by
  rw [parseAcs, parseLoop_letters, hx]

theorem letters_ne_nil (m : Mode) (h : m &&& modeBitmask ≠ 0#32) : letters m ≠ [] := by
  intro hnil
  have := parseLoop_letters m 0
  rw [hnil] at this
  simp [parseLoop] at this
  exact h this.symm

theorem unset_or_and_mask (x : Mode) (hx : x &&& modeBitmask = x) :
    (modeUnset ||| x) &&& modeBitmask = x := by
  rw [BitVec.and_or_distrib_right, unset_and_mask, BitVec.zero_or, hx]

theorem unset_or_ne (x : Mode) (hx : x &&& modeBitmask = x) (hx0 : x ≠ 0#32) :
    modeUnset ||| x ≠ modeUnset := by
  intro h
  have := unset_or_and_mask x hx
  rw [h, unset_and_mask] at this
  exact hx0 this.symm

theorem unmarshal_letters (t x : Mode) (hx : x &&& modeBitmask = x) (hx0 : x ≠ 0#32) :
    unmarshal t (letters x) = .ok x := by
  rw [unmarshal, parseAcs_letters x hx]
  dsimp only
  rw [if_pos (unset_or_ne x hx hx0), unset_or_and_mask x hx]

theorem unmarshal_N (t : Mode) : unmarshal t ['N'] = .ok 0 := rfl

theorem marshal_masked (m : Mode) (h : m &&& modeBitmask = m) (h0 : m ≠ 0#32) :
    marshal m = .ok (letters m) := by
  have hinv : m ≠ modeInvalid := by
    rintro rfl
    exact h0 (h.symm.trans (by decide))
  rw [marshal, if_neg (show m ≠ modeNone from h0), if_neg hinv]

theorem toStr_masked (m : Mode) (h : m &&& modeBitmask = m) (h0 : m ≠ 0#32) :
    toStr m = letters m := by
  rw [toStr, marshal_masked m h h0]

theorem applyLoop_nil (fuel : Nat) (m : Mode) : applyLoop fuel [] m = .ok m := by
  cases fuel <;> rfl

theorem applyLoop_chunk (fuel : Nat) (ch : Char) (x : Mode) (s T : List Char) (m0 : Mode)
    (hf : 0 < fuel) (hx : x &&& modeBitmask = x) (hx0 : x ≠ 0#32) (hs : s = letters x ++ T)
    (hT : ∀ c ∈ T.head?, isSign c = true) :
    applyLoop fuel (ch :: s) m0 =
      if ch = '+' then applyLoop (fuel - 1) T (m0 ||| x)
      else if ch = '-' then applyLoop (fuel - 1) T (m0 &&& ~~~x)
      else .error .badDelta := by
  obtain ⟨fuel, rfl⟩ : ∃ f, fuel = f + 1 := ⟨fuel - 1, by omega⟩
  -- the loop body runs on a string of at least two characters: `ch` and the first letter of `x`
  obtain ⟨c2, rest0, hcons⟩ := List.exists_cons_of_ne_nil
    (hs ▸ List.append_ne_nil_of_left_ne_nil (letters_ne_nil x (by rw [hx]; exact hx0)) T)
  -- the chunk ends where the loop's `takeWhile` stops: at the next sign
  have htd := takeWhile_dropWhile_append (fun c => !isSign c) (run := letters x) (rest := T)
    (by simpa using letters_noSign x) (by simpa using hT)
  rw [hcons, applyLoop]
  simp only [← hcons, hs, htd.1, htd.2, parseAcs_letters x hx, unset_or_and_mask x hx,
    if_pos (unset_or_ne x hx hx0), Nat.add_sub_cancel]
  -- the model's early exit when nothing is left is what the loop does on `[]` anyway
  have hnil : ∀ m, (if T = [] then .ok m else applyLoop fuel T m) = applyLoop fuel T m := by
    intro m
    split
    · next h => rw [h, applyLoop_nil]
    · rfl
  simp only [hnil]

theorem applyDelta_eq_loop (m : Mode) (d : List Char) (h : d ≠ ['N']) :
    applyDelta m d = applyLoop d.length d m := by
  by_cases hd : d = []
  · subst hd; rfl
  · rw [applyDelta, if_neg (by simp [hd, h])]

/-- The effect of "+a-r", each part left out when empty (the strings `Delta` produces). -/
theorem applyDelta_parts (m a r : Mode) (ha : a &&& modeBitmask = a) (hr : r &&& modeBitmask = r) :
    applyDelta m
        ((if a = 0#32 then [] else '+' :: letters a) ++ (if r = 0#32 then [] else '-' :: letters r))
      = .ok ((m ||| a) &&& ~~~r) := by
  have minus : ∀ fuel m0, (r ≠ 0#32 → 0 < fuel) →
      applyLoop fuel (if r = 0#32 then [] else '-' :: letters r) m0 = .ok (m0 &&& ~~~r) := by
    intro fuel m0 hf
    by_cases h : r = 0#32
    · rw [if_pos h, applyLoop_nil, h, BitVec.not_zero, BitVec.and_allOnes]
    · rw [if_neg h, applyLoop_chunk fuel '-' r _ [] m0 (hf h) hr h (List.append_nil _).symm (by simp),
        if_neg (by decide), if_pos rfl, applyLoop_nil]
  by_cases ha0 : a = 0#32
  · rw [if_pos ha0, List.nil_append, applyDelta_eq_loop _ _ (by split <;> simp),
      minus _ _ (fun h => by rw [if_neg h]; simp), ha0, BitVec.or_zero]
  · rw [if_neg ha0, List.cons_append, applyDelta_eq_loop _ _ (by simp),
      applyLoop_chunk _ '+' a _ _ m (by simp) ha ha0 rfl (by split <;> simp [isSign]), if_pos rfl,
      minus _ _ (fun h => by rw [if_neg h]; simp; omega)]

/-! A mode `a` is within a mask `c` when `a &&& c = a`. -/
theorem mask_within (m c : Mode) : (m &&& c) &&& c = m &&& c := by
  rw [BitVec.and_assoc, BitVec.and_self]
theorem and_within {a c : Mode} (b : Mode) (h : a &&& c = a) : (a &&& b) &&& c = a &&& b := by
  rw [BitVec.and_assoc, BitVec.and_comm b c, ← BitVec.and_assoc, h]
theorem or_within {a b c : Mode} (ha : a &&& c = a) (hb : b &&& c = b) : (a ||| b) &&& c = a ||| b := by
  rw [BitVec.and_or_distrib_right, ha, hb]
theorem and_not_of_within {a c : Mode} (h : a &&& c = a) : a &&& ~~~c = 0 := by
  rw [← h, BitVec.and_assoc, BitVec.and_not_self]
  exact BitVec.and_zero

theorem and_and_mask (x y : Mode) :
    (modeBitmask &&& x &&& y) &&& modeBitmask = modeBitmask &&& x &&& y :=
  and_within y (and_within x BitVec.and_self)

theorem delta_half (ch : Char) (x : Mode) (hx : x &&& modeBitmask = x) :
    (if x > 0 then (let r := toStr x; if r ≠ [] then ch :: r else r) else [])
      = if x = 0#32 then [] else ch :: letters x := by
  by_cases h : x = 0#32
  · simp [h]
  · rw [if_pos (show x > 0 from (BitVec.pos_iff_ne_zero x).mpr h), if_neg h, toStr_masked x hx h,
      if_pos (letters_ne_nil x (by rw [hx]; exact h))]

theorem delta_eq (o n : Mode) :
    delta o n =
      (if modeBitmask &&& n &&& ~~~o = 0#32 then [] else '+' :: letters (modeBitmask &&& n &&& ~~~o)) ++
      (if modeBitmask &&& o &&& ~~~n = 0#32 then [] else '-' :: letters (modeBitmask &&& o &&& ~~~n)) := by
  rw [← delta_half '+' _ (and_and_mask n _), ← delta_half '-' _ (and_and_mask o _)]
  rfl

theorem applyDelta_delta (m o n : Mode) :
    applyDelta m (delta o n) =
      .ok ((m ||| modeBitmask &&& n &&& ~~~o) &&& ~~~(modeBitmask &&& o &&& ~~~n)) := by
  rw [delta_eq, applyDelta_parts m _ _ (and_and_mask n _) (and_and_mask o _)]

theorem or_diff_and_not_diff {w : Nat} (o n : BitVec w) :
    (o ||| n &&& ~~~o) &&& ~~~(o &&& ~~~n) = n := by
  ext i hi
  simp only [BitVec.getElem_and, BitVec.getElem_or, BitVec.getElem_not]
  cases o[i] <;> cases n[i] <;> rfl

theorem applyMutation_noSign (t : Mode) (s : List Char) (hs : ∀ c ∈ s, isSign c = false) :
    applyMutation t s = unmarshal t s := by
  rw [applyMutation]
  split
  · next h => rw [h]; rfl
  · rw [if_neg (by simpa using hs)]

theorem applyMutation_toStr (t n : Mode) (hn : n &&& modeBitmask = n) :
    applyMutation t (toStr n) = .ok n := by
  by_cases h0 : n = 0#32
  · rw [h0]; rfl
  · rw [toStr_masked n hn h0, applyMutation_noSign _ _ (letters_noSign n), unmarshal_letters t n hn h0]

theorem applyMutation_delta (m o n : Mode) :
    applyMutation m (delta o n) = applyDelta m (delta o n) := by
  rw [applyMutation]
  split
  · next h => rw [h]; rfl
  · next h =>
    -- a `delta` that is not empty begins with the sign of its first part
    have : (delta o n).any isSign = true := by
      rw [delta_eq] at h ⊢
      revert h
      split <;> split <;> simp [isSign]
    rw [if_pos this]

end Tinode.Acs
