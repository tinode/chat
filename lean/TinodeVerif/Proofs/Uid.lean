import TinodeVerif.Model.Uid
import TinodeVerif.Proofs.Digits
import TinodeVerif.Proofs.Lists
/-!
Codec laws of `Model/Uid.lean`. The byte conversions (`bytesLE`/`fromLE`, `toWords`/`ofWords`) are instances of positional
notation in base 256, whose two round trips are proved once for every base and width (Proofs/Digits.lean). The base64 and base32
groups cut a byte into bit fields and pack fields of neighbouring bytes side by side; their laws are those of `x * n + y` with `y < n`.
-/
namespace Tinode.Uid

theorem bytesLE_eq (u : Nat) : bytesLE u = digits 256 8 u := by
  simp [bytesLE, digits, Nat.div_div_eq_div_mul]

theorem fromLE_eq : ∀ {bs : List Nat}, bs.length = 8 → fromLE bs = ofDigits 256 bs
  | [_, _, _, _, _, _, _, _], _ => by simp +arith only [fromLE, ofDigits]

theorem bytesLE_length (u : Nat) : (bytesLE u).length = 8 := rfl

theorem bytesLE_lt (u : Nat) : ∀ b ∈ bytesLE u, b < 256 := by
  rw [bytesLE_eq]; exact digits_lt (by decide) 8 u

theorem fromLE_bytesLE (u : Nat) (hu : u < 2 ^ 64) : fromLE (bytesLE u) = u := by
  rw [fromLE_eq (bytesLE_length u), bytesLE_eq]
  exact ofDigits_digits_of_lt hu

theorem bytesLE_fromLE (bs : List Nat) (hl : bs.length = 8) (h : ∀ b ∈ bs, b < 256) : bytesLE (fromLE bs) = bs := by
  rw [fromLE_eq hl, bytesLE_eq, digits_ofDigits hl h]

/-- blockToUint32 on a block of eight bytes -/
def wordsOfBytes (bs : List Nat) : W × W :=
  (BitVec.ofNat 32 (ofDigits 256 (bs.take 4).reverse), BitVec.ofNat 32 (ofDigits 256 (bs.drop 4).reverse))

/-- uint32ToBlock -/
def bytesOfWords (w : W × W) : List Nat := (digits 256 4 w.1.toNat).reverse ++ (digits 256 4 w.2.toNat).reverse

theorem toWords_eq (u : Nat) : toWords u = wordsOfBytes (bytesLE u) := by
  simp +arith [toWords, wordsOfBytes, bytesLE, ofDigits]

theorem ofWords_eq (w : W × W) : ofWords w = fromLE (bytesOfWords w) := by
  simp [ofWords, bytesOfWords, digits, Nat.div_div_eq_div_mul]

theorem bytesOfWords_length (w : W × W) : (bytesOfWords w).length = 8 := by
  simp [bytesOfWords, digits_length]

theorem bytesOfWords_lt (w : W × W) : ∀ b ∈ bytesOfWords w, b < 256 := by
  intro b hb
  simp only [bytesOfWords, List.mem_append, List.mem_reverse] at hb
  exact hb.elim (digits_lt (by decide) 4 _ b) (digits_lt (by decide) 4 _ b)

theorem digits_word (ds : List Nat) (hl : ds.length = 4) (h : ∀ d ∈ ds, d < 256) :
    (digits 256 4 (BitVec.ofNat 32 (ofDigits 256 ds.reverse)).toNat).reverse = ds := by
  have hr : ∀ d ∈ ds.reverse, d < 256 := fun d hd => h d (List.mem_reverse.mp hd)
  have hlt := ofDigits_lt ds.reverse hr
  rw [List.length_reverse, hl] at hlt
  rw [BitVec.toNat_ofNat, Nat.mod_eq_of_lt hlt, digits_ofDigits (List.length_reverse.trans hl) hr, List.reverse_reverse]

theorem bytesOfWords_wordsOfBytes (bs : List Nat) (hl : bs.length = 8) (h : ∀ b ∈ bs, b < 256) :
    bytesOfWords (wordsOfBytes bs) = bs := by
  unfold bytesOfWords wordsOfBytes
  rw [digits_word _ (by simp [hl]) (fun b hb => h b (List.mem_of_mem_take hb)),
    digits_word _ (by simp [hl]) (fun b hb => h b (List.mem_of_mem_drop hb)), List.take_append_drop]

theorem wordsOfBytes_bytesOfWords (w : W × W) : wordsOfBytes (bytesOfWords w) = w := by
  have word : ∀ a : W, BitVec.ofNat 32 (ofDigits 256 (digits 256 4 a.toNat)) = a := fun a => by
    rw [ofDigits_digits_of_lt (b := 256) (n := 4) a.isLt, BitVec.ofNat_toNat, BitVec.setWidth_eq]
  simp [wordsOfBytes, bytesOfWords, digits_length, word]

theorem ofWords_toWords (u : Nat) (hu : u < 2 ^ 64) : ofWords (toWords u) = u := by
  rw [ofWords_eq, toWords_eq, bytesOfWords_wordsOfBytes _ (bytesLE_length u) (bytesLE_lt u), fromLE_bytesLE u hu]

theorem toWords_ofWords (w : W × W) : toWords (ofWords w) = w := by
  rw [ofWords_eq, toWords_eq, bytesLE_fromLE _ (bytesOfWords_length w) (bytesOfWords_lt w), wordsOfBytes_bytesOfWords]

theorem decRound_encRound (tab : Nat → W) (i : Nat) (v : W × W) : decRound tab i (encRound tab i v) = v := by
  unfold decRound encRound
  simp only [BitVec.add_sub_cancel]

theorem decrypt_encrypt (tab : Nat → W) (n : Nat) (v : W × W) : decrypt tab n (encrypt tab n v) = v := by
  induction n generalizing v with
  | zero => rfl
  | succ n ih => simp only [encrypt, decrypt, decRound_encRound, ih]

theorem encRound_decRound (tab : Nat → W) (i : Nat) (v : W × W) : encRound tab i (decRound tab i v) = v := by
  unfold decRound encRound
  simp only [BitVec.sub_add_cancel]

theorem encrypt_decrypt (tab : Nat → W) (n : Nat) (v : W × W) : encrypt tab n (decrypt tab n v) = v := by
  induction n generalizing v with
  | zero => rfl
  | succ n ih => simp only [encrypt, decrypt, ih, encRound_decRound]

theorem encodeInt64_decodeUid (tab : Nat → W) (u : Nat) (hu : u < 2 ^ 64) : encodeInt64 tab (decodeUid tab u) = u := by
  unfold encodeInt64 decodeUid
  rw [toWords_ofWords, encrypt_decrypt, ofWords_toWords u hu]

theorem decodeUid_encodeInt64 (tab : Nat → W) (v : Nat) (hv : v < 2 ^ 64) : decodeUid tab (encodeInt64 tab v) = v := by
  unfold encodeInt64 decodeUid
  rw [toWords_ofWords, decrypt_encrypt, ofWords_toWords v hv]

/-- Two maps that undo each other still do so once both are made to send zero to zero, except at the image of zero. -/
theorem zero_guard_inverse (f g : Nat → Nat) (u : Nat) (inv : f (g u) = u) (hx : u ≠ f 0) :
    (fun x => if x = 0 then 0 else f x) ((fun x => if x = 0 then 0 else g x) u) = u := by
  by_cases h0 : u = 0
  · simp [h0]
  · have hz : g u ≠ 0 := fun hz => hx (by rw [← inv, hz])
    simp [h0, hz, inv]

/-! Three laws do most of the work in the base64 and base32 groups below: packing undoes cutting (`Nat.div_add_mod'`), cutting
undoes packing (`unpack`), and packing fields below `m` and `n` gives a field below `m * n` (`pack_lt`). -/

theorem unpack {x y n : Nat} (h : y < n) : (x * n + y) / n = x ∧ (x * n + y) % n = y :=
  ⟨by rw [Nat.add_comm, Nat.add_mul_div_right _ _ (by omega), Nat.div_eq_of_lt h, Nat.zero_add], Nat.mul_add_mod_of_lt h⟩

theorem pack_lt {x y m n : Nat} (hx : x < m) (hy : y < n) : x * n + y < m * n :=
  calc x * n + y < (x + 1) * n := by rw [Nat.succ_mul]; exact Nat.add_lt_add_left hy _
    _ ≤ m * n := Nat.mul_le_mul_right n hx

theorem mod_pack_lt {x y m n : Nat} (hm : 0 < m) (hy : y < n) : x % m * n + y < m * n := pack_lt (Nat.mod_lt x hm) hy

/-- a field in the middle: `x` cut into its low field below `m`, the next one below `n`, and the rest -/
theorem div_mod_three (x m n : Nat) : x / (m * n) * (m * n) + x / m % n * m + x % m = x := by
  rw [← Nat.div_div_eq_div_mul, Nat.mul_comm m n, ← Nat.mul_assoc, ← Nat.add_mul, Nat.div_add_mod', Nat.div_add_mod']

theorem enc64_length : ∀ (bs : List Nat), (enc64 bs).length = (bs.length * 4 + 2) / 3
  | [] => by simp [enc64]
  | [_] => by simp [enc64]
  | [_, _] => by simp [enc64]
  | _ :: _ :: _ :: rest => by
    simp only [enc64, List.length_cons, enc64_length rest]; omega

theorem dec64_enc64 : ∀ (bs : List Nat), (∀ b ∈ bs, b < 256) →
    (∀ s ∈ enc64 bs, s < 64) ∧ dec64 (enc64 bs) = some bs
  | [], _ => by simp [enc64, dec64]
  | [a], h => by
    have ha : a < 256 := h a (by simp)
    simp only [enc64, dec64, Nat.mul_mod_left, if_pos, Nat.mul_div_cancel _ (by decide : 0 < 16), Nat.div_add_mod',
      List.forall_mem_cons, and_true]
    exact ⟨Nat.div_lt_of_lt_mul ha, mod_pack_lt (y := 0) (by decide) (by decide), nofun⟩
  | [a, b], h => by
    have ha : a < 256 := h a (by simp)
    have hb : b / 16 < 16 := Nat.div_lt_of_lt_mul (h b (by simp))
    simp only [enc64, dec64, Nat.mul_mod_left, if_pos, Nat.mul_div_cancel _ (by decide : 0 < 4), unpack hb, Nat.div_add_mod',
      List.forall_mem_cons, and_true]
    exact ⟨Nat.div_lt_of_lt_mul ha, mod_pack_lt (by decide) hb, mod_pack_lt (y := 0) (by decide) (by decide), nofun⟩
  | a :: b :: c :: rest, h => by
    simp only [List.forall_mem_cons] at h
    obtain ⟨ha, hb, hc, hrest⟩ := h
    obtain ⟨ih1, ih2⟩ := dec64_enc64 rest hrest
    have hb : b / 16 < 16 := Nat.div_lt_of_lt_mul hb
    have hc : c / 64 < 4 := Nat.div_lt_of_lt_mul hc
    simp only [enc64, dec64, ih2, Option.map_some, unpack hb, unpack hc, Nat.div_add_mod', List.forall_mem_cons, and_true]
    exact ⟨Nat.div_lt_of_lt_mul ha, mod_pack_lt (by decide) hb, mod_pack_lt (by decide) hc, Nat.mod_lt _ (by decide), ih1⟩

/-- strict decoding is injective on sextets -/
theorem enc64_of_dec64 : ∀ (ss bs : List Nat), (∀ s ∈ ss, s < 64) → dec64 ss = some bs →
    enc64 bs = ss ∧ ∀ b ∈ bs, b < 256
  | [], bs, _, hd => by cases hd; simp [enc64]
  | [_], bs, _, hd => by cases hd
  | [s0, s1], bs, h, hd => by
    have h1 : s1 / 16 < 4 := Nat.div_lt_of_lt_mul (h s1 (by simp))
    rw [dec64] at hd
    split at hd
    · next hz =>
      -- the unused low bits of `s1` are zero, so cutting them off loses nothing
      cases hd
      simp only [enc64, unpack h1, Nat.div_mul_cancel (Nat.dvd_of_mod_eq_zero hz), List.forall_mem_cons, true_and]
      exact ⟨pack_lt (h s0 (by simp)) h1, nofun⟩
    · cases hd
  | [s0, s1, s2], bs, h, hd => by
    have h1 : s1 / 16 < 4 := Nat.div_lt_of_lt_mul (h s1 (by simp))
    have h2 : s2 / 4 < 16 := Nat.div_lt_of_lt_mul (h s2 (by simp))
    rw [dec64] at hd
    split at hd
    · next hz =>
      cases hd
      simp only [enc64, unpack h1, unpack h2, Nat.div_add_mod', Nat.div_mul_cancel (Nat.dvd_of_mod_eq_zero hz),
        List.forall_mem_cons, true_and]
      exact ⟨pack_lt (h s0 (by simp)) h1, mod_pack_lt (by decide) h2, nofun⟩
    · cases hd
  | s0 :: s1 :: s2 :: s3 :: rest, bs, h, hd => by
    simp only [List.forall_mem_cons] at h
    obtain ⟨h0, h1, h2, h3, hrest⟩ := h
    simp only [dec64, Option.map_eq_some_iff] at hd
    obtain ⟨r, hr, rfl⟩ := hd
    obtain ⟨ih1, ih2⟩ := enc64_of_dec64 rest r hrest hr
    have h1 : s1 / 16 < 4 := Nat.div_lt_of_lt_mul h1
    have h2 : s2 / 4 < 16 := Nat.div_lt_of_lt_mul h2
    simp only [enc64, ih1, unpack h1, unpack h2, unpack h3, Nat.div_add_mod', List.forall_mem_cons, true_and]
    exact ⟨pack_lt h0 h1, mod_pack_lt (by decide) h2, mod_pack_lt (by decide) h3, ih2⟩

theorem idxOf_charOf : ∀ k, k < 64 → idxOf (charOf k) = some k := by decide +kernel

theorem charOf_idxOf (c : Char) (k : Nat) (h : idxOf c = some k) : charOf k = c ∧ k < 64 := by
  simp only [idxOf, Option.ite_none_right_eq_some, Option.some.injEq] at h
  obtain ⟨hlt, rfl⟩ := h
  have hl : alphabet64.idxOf c < alphabet64.length := hlt
  refine ⟨?_, hlt⟩
  rw [charOf, List.getD_eq_getElem?_getD, List.getElem?_eq_getElem hl, Option.getD_some, List.getElem_idxOf]

theorem charOf_not_newline : ∀ k, k < 64 → isNewline (charOf k) = false := by decide +kernel

theorem filter_enc (ss : List Nat) (h : ∀ s ∈ ss, s < 64) :
    (ss.map charOf).filter (fun c => !isNewline c) = ss.map charOf := by
  apply List.filter_eq_self.mpr
  intro c hc
  obtain ⟨k, hk, rfl⟩ := List.mem_map.mp hc
  simp [charOf_not_newline k (h k hk)]

theorem encodeB64_length (bs : List Nat) : (encodeB64 bs).length = (bs.length * 4 + 2) / 3 := by
  rw [encodeB64, List.length_map, enc64_length]

theorem decodeB64_encodeB64 (bs : List Nat) (h : ∀ b ∈ bs, b < 256) : decodeB64 (encodeB64 bs) = some bs := by
  obtain ⟨hs, hd⟩ := dec64_enc64 bs h
  unfold decodeB64 encodeB64
  rw [filter_enc _ hs, mapM_map_of_leftInverse fun s hs' => idxOf_charOf s (hs s hs')]
  exact hd

theorem decodeB64_eq_some (s : List Char) (bs : List Nat) (hd : decodeB64 s = some bs) :
    s.filter (fun c => !isNewline c) = encodeB64 bs ∧ ∀ b ∈ bs, b < 256 := by
  unfold decodeB64 at hd
  split at hd
  · rename_i ss hm
    obtain ⟨h1, h2⟩ := map_of_mapM_eq_some charOf_idxOf hm
    obtain ⟨h3, h4⟩ := enc64_of_dec64 ss bs h2 hd
    exact ⟨by rw [encodeB64, h3, h1], h4⟩
  · simp at hd

theorem parseUid_encodeB64 (bs : List Nat) (hl : bs.length = 8) (h : ∀ b ∈ bs, b < 256) :
    parseUid (encodeB64 bs) = fromLE bs := by
  unfold parseUid
  rw [if_neg (by simp [encodeB64_length, hl]), decodeB64_encodeB64 bs h]
  simp only
  rw [if_neg (by omega), ← hl, List.take_length]

theorem parseUid_ne_zero (s : List Char) (h : parseUid s ≠ 0) :
    ∃ bs, bs.length = 8 ∧ (∀ b ∈ bs, b < 256) ∧ s = encodeB64 bs := by
  unfold parseUid at h
  split at h
  · exact absurd rfl h
  split at h
  · rename_i bs hd
    split at h
    · exact absurd rfl h
    obtain ⟨h1, h2⟩ := decodeB64_eq_some s bs hd
    -- `s` has as many characters as eight bytes or more encode to, so the decoder skipped none of them
    have hle := List.length_filter_le (fun c => !isNewline c) s
    have hlen := encodeB64_length bs
    rw [← h1] at hlen
    have hs : s.filter (fun c => !isNewline c) = s :=
      List.filter_eq_self.mpr (List.length_filter_eq_length_iff.mp (by omega))
    exact ⟨bs, by omega, h2, by rw [← h1, hs]⟩
  · exact absurd rfl h

theorem p2pName_eq (a b : Nat) (ha0 : a ≠ 0) (hb0 : b ≠ 0) (hab : a ≠ b) :
    p2pName a b = ['p', '2', 'p'] ++ encodeB64 (bytesLE (min a b) ++ bytesLE (max a b)) := by
  unfold p2pName
  rcases Nat.lt_or_gt_of_ne hab with h | h
  · simp [ha0, hb0, h, Nat.min_eq_left (Nat.le_of_lt h), Nat.max_eq_right (Nat.le_of_lt h)]
  · simp [ha0, hb0, h, Nat.lt_asymm h, Nat.min_eq_right (Nat.le_of_lt h), Nat.max_eq_left (Nat.le_of_lt h)]

theorem parseP2P_encodeB64 (a b : Nat) (ha : a < 2 ^ 64) (hb : b < 2 ^ 64) :
    parseP2P (['p', '2', 'p'] ++ encodeB64 (bytesLE a ++ bytesLE b)) = some (a, b) := by
  have hlt : ∀ x ∈ bytesLE a ++ bytesLE b, x < 256 :=
    fun x hx => (List.mem_append.mp hx).elim (bytesLE_lt a x) (bytesLE_lt b x)
  have e1 : (bytesLE a ++ bytesLE b).take 8 = bytesLE a := by simp [bytesLE]
  have e2 : ((bytesLE a ++ bytesLE b).drop 8).take 8 = bytesLE b := by simp [bytesLE]
  simp [parseP2P, List.isPrefixOf, encodeB64_length, bytesLE_length, decodeB64_encodeB64 _ hlt, e1, e2,
    fromLE_bytesLE a ha, fromLE_bytesLE b hb]

theorem idx32_toLower_char32 : ∀ k, k < 32 → idx32 (char32 k).toLower = some k := by decide +kernel

theorem dec32x13_enc32x8 : ∀ (bs : List Nat), bs.length = 8 → (∀ b ∈ bs, b < 256) →
    (∀ q ∈ enc32x8 bs, q < 32) ∧ dec32x13 (enc32x8 bs) = some bs
  | [a, b, c, d, e, f, g, h], _, hb => by
    simp only [List.forall_mem_cons] at hb
    obtain ⟨ha, hb, hc, hd, he, hf, hg, hh, -⟩ := hb
    have hb : b / 64 < 4 := Nat.div_lt_of_lt_mul hb
    have hc : c / 16 < 16 := Nat.div_lt_of_lt_mul hc
    have hd : d / 128 < 2 := Nat.div_lt_of_lt_mul hd
    have he : e / 32 < 8 := Nat.div_lt_of_lt_mul he
    have hg : g / 64 < 4 := Nat.div_lt_of_lt_mul hg
    have hh : h / 16 < 16 := Nat.div_lt_of_lt_mul hh
    simp only [enc32x8, dec32x13, unpack hb, unpack hc, unpack hd, unpack he, unpack hg, unpack hh,
      Nat.mul_div_cancel _ (by decide : 0 < 2), Nat.div_add_mod', div_mod_three b 2 32, div_mod_three d 4 32,
      div_mod_three g 2 32, List.forall_mem_cons, and_true]
    exact ⟨Nat.div_lt_of_lt_mul ha, mod_pack_lt (by decide) hb, Nat.mod_lt _ (by decide), mod_pack_lt (by decide) hc,
      mod_pack_lt (by decide) hd, Nat.mod_lt _ (by decide), mod_pack_lt (by decide) he, Nat.mod_lt _ (by decide),
      Nat.div_lt_of_lt_mul hf, mod_pack_lt (by decide) hg, Nat.mod_lt _ (by decide), mod_pack_lt (by decide) hh,
      mod_pack_lt (y := 0) (by decide) (by decide), nofun⟩

end Tinode.Uid
