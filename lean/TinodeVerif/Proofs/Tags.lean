import TinodeVerif.Model.Search
/-! `normalizeTags` after its sort: what is assumed of `sort.Strings`, and what one pass of the de-duplicating loop keeps of a
sorted list - a sublist of valid tags, strictly increasing because equal neighbours were dropped. Soundness only: that every valid tag is
kept is not stated, and no instance of `SortSpec` is given. -/
namespace Tinode.Search

/-- what is assumed of `sort.Strings` -/
structure SortSpec (le : List Char → List Char → Bool) (sortS : List (List Char) → List (List Char)) : Prop where
  trans : ∀ a b c, le a b → le b c → le a c
  antisymm : ∀ a b, le a b → le b a → a = b
  perm : ∀ l, (sortS l).Perm l
  sorted : ∀ l, (sortS l).Pairwise (fun a b => le a b = true)

theorem SortSpec.sort_eq_iff {le : List Char → List Char → Bool} {sortS : List (List Char) → List (List Char)}
    (hss : SortSpec le sortS) (a b : List (List Char)) : sortS a = sortS b ↔ a.Perm b :=
  ⟨fun h => (hss.perm a).symm.trans (h ▸ hss.perm b),
   fun h => List.Perm.eq_of_pairwise (le := fun a b => le a b = true) (fun a b _ _ => hss.antisymm a b)
     (hss.sorted a) (hss.sorted b) ((hss.perm a).trans (h.trans (hss.perm b).symm))⟩

variable (isLetter isDigit : Char → Bool)

theorem dedupLoop_cons {curr prev : List Char} {rest r : List (List Char)}
    (h : dedupLoop isLetter isDigit (curr :: rest) prev = some r) :
    dedupLoop isLetter isDigit rest prev = some r ∨
    ∃ r', r = curr :: r' ∧ dedupLoop isLetter isDigit rest curr = some r' ∧
      minTagLength ≤ curr.length ∧ curr.length ≤ maxTagLength ∧ curr ≠ prev ∧ curr ≠ nullValue ∧
      ∃ c cs, curr = c :: cs ∧ (isLetter c = true ∨ isDigit c = true) := by
  unfold dedupLoop at h
  split at h
  · cases h
  next hnull =>
    split at h
    · exact .inl h
    next hcond =>
      split at h
      · exact .inl h
      next c cs =>
        split at h
        · exact .inl h
        next hfirst =>
          obtain ⟨r', hr, rfl⟩ := Option.map_eq_some_iff.mp h
          refine .inr ⟨r', rfl, hr, ?_, ?_, fun e => hcond (.inr (.inr e)), hnull, c, cs, rfl, ?_⟩
          · exact Nat.le_of_not_lt fun e => hcond (.inl e)
          · exact Nat.le_of_not_lt fun e => hcond (.inr (.inl e))
          · cases hl : isLetter c <;> simp_all

/-- Every kept tag differs from `prev` as soon as `prev` is a lower bound of the list (the loop starts with `prev = ""`, which
need not be one). -/
theorem dedupLoop_spec {le : List Char → List Char → Bool} (hanti : ∀ a b, le a b → le b a → a = b)
    (l : List (List Char)) (prev : List Char) (r : List (List Char))
    (hs : l.Pairwise (fun a b => le a b = true)) (h : dedupLoop isLetter isDigit l prev = some r) :
    r.Sublist l ∧
    (∀ x ∈ r, minTagLength ≤ x.length ∧ x.length ≤ maxTagLength ∧ x ≠ nullValue ∧
      ∃ c cs, x = c :: cs ∧ (isLetter c = true ∨ isDigit c = true)) ∧
    ((∀ x ∈ l, le prev x = true) → ∀ x ∈ r, x ≠ prev) ∧
    r.Pairwise (fun a b => le a b = true ∧ a ≠ b) := by
  induction l generalizing prev r with
  | nil => simp [dedupLoop] at h; subst h; simp
  | cons curr rest ih =>
    obtain ⟨hcurr, hrest⟩ := List.pairwise_cons.mp hs
    rcases dedupLoop_cons isLetter isDigit h with h | ⟨r', rfl, h, hl1, hl2, hne, hnull, hfirst⟩
    · obtain ⟨a, b, c, d⟩ := ih prev r hrest h
      exact ⟨a.cons _, b, fun hprev => c fun x hx => hprev x (by simp [hx]), d⟩
    · obtain ⟨a, b, c, d⟩ := ih curr r' hrest h
      refine ⟨a.cons_cons _, ?_, ?_, List.pairwise_cons.mpr ⟨?_, d⟩⟩
      · intro x hx
        rcases List.mem_cons.mp hx with rfl | hx
        · exact ⟨hl1, hl2, hnull, hfirst⟩
        · exact b x hx
      · intro hprev x hx
        rcases List.mem_cons.mp hx with rfl | hx
        · exact hne
        · -- x = prev ≤ curr ≤ x would give curr = prev
          rintro rfl
          exact hne (hanti _ _ (hprev _ (by simp)) (hcurr x (a.subset hx))).symm
      · exact fun x hx => ⟨hcurr x (a.subset hx), fun e => c hcurr x hx e.symm⟩

end Tinode.Search
