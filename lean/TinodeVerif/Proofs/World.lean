import TinodeVerif.Model.TopicOps
import TinodeVerif.Proofs.Lists
/-! Lemmas about the primitives of the world model: its keyed lists (`setRow`, `setLive`, `alSet` are the same replace-or-append of
Proofs/Lists.lean, `setSess` its replacing half; `TopicRow.setSub` is that replace-or-append too and has no lemmas here; `World.setCrow` is not: it never creates a
row), the context operations `emit`, `putLive`, `call`, what an adapter call leaves alone, and the fan-out folds. -/
namespace Tinode.World

theorem live_setLive (w : World) (t : Topic) : (w.setLive t).live? t.name = some t := find_upsert (fun t : Topic => t.name) w.live t
theorem live_setLive_other {w : World} {t : Topic} {k : TName} (h : k ≠ t.name) : (w.setLive t).live? k = w.live? k :=
  find_upsert_other (fun t : Topic => t.name) w.live t k h
theorem row_setRow (w : World) (r : TopicRow) : (w.setRow r).row? r.name = some r := find_upsert (fun r : TopicRow => r.name) w.store r
theorem row_setRow_other (w : World) (r : TopicRow) (k : TName) (h : k ≠ r.name) : (w.setRow r).row? k = w.row? k :=
  find_upsert_other (fun r : TopicRow => r.name) w.store r k h
@[simp] theorem row_setLive (w : World) (t : Topic) (k : TName) : (w.setLive t).row? k = w.row? k := rfl
@[simp] theorem live_setRow (w : World) (r : TopicRow) (k : TName) : (w.setRow r).live? k = w.live? k := rfl
@[simp] theorem sess_setLive (w : World) (t : Topic) : (w.setLive t).sess = w.sess := rfl
@[simp] theorem sess_setRow (w : World) (r : TopicRow) : (w.setRow r).sess = w.sess := rfl
theorem sess_setSess (w : World) (s : Sess) (h : (w.sess? s.sid).isSome) : (w.setSess s).sess? s.sid = some s :=
  find_replace Sess.sid w.sess s (List.any_eq_true.mpr (List.find?_isSome.mp h))
theorem live_delLive (w : World) (tn : TName) : (w.delLive tn).live? tn = none := find_filter_ne (fun t : Topic => t.name) w.live tn

theorem row_name {w : World} {k : TName} {r : TopicRow} (h : w.row? k = some r) : r.name = k := find_key (fun r : TopicRow => r.name) w.store k h
theorem live_name {w : World} {k : TName} {t : Topic} (h : w.live? k = some t) : t.name = k := find_key (fun t : Topic => t.name) w.live k h

theorem alGet_alSet {β} (l : List (String × β)) (k : String) (v : β) : alGet (alSet l k v) k = some v :=
  congrArg (Option.map fun e : String × β => e.2) (find_upsert (fun e : String × β => e.1) l (k, v))
theorem alGet_alSet_other {β} (l : List (String × β)) (k k' : String) (v : β) (h : k' ≠ k) :
    alGet (alSet l k v) k' = alGet l k' :=
  congrArg (Option.map fun e : String × β => e.2) (find_upsert_other (fun e : String × β => e.1) l (k, v) k' h)

theorem alGet_alDel {β} (l : List (String × β)) (k : String) : alGet (alDel l k) k = none :=
  congrArg (Option.map fun e : String × β => e.2) (find_filter_ne (fun e : String × β => e.1) l k)

theorem pud_setPud (t : Topic) (u : Uid) (p : PUD) : (t.setPud u p).pud u = p :=
  congrArg (·.getD {}) (alGet_alSet t.perUser u p)
theorem pud_setPud_other {t : Topic} {u v : Uid} (p : PUD) (h : v ≠ u) : (t.setPud u p).pud v = t.pud v :=
  congrArg (·.getD {}) (alGet_alSet_other t.perUser u v p h)
theorem pud?_delPud (t : Topic) (u : Uid) : (t.delPud u).pud? u = none := alGet_alDel t.perUser u
@[simp] theorem sessions_setPud (t : Topic) (u : Uid) (p : PUD) : (t.setPud u p).sessions = t.sessions := rfl
@[simp] theorem lastId_setPud (t : Topic) (u : Uid) (p : PUD) : (t.setPud u p).lastId = t.lastId := rfl

/-- an adapter effect that rewrites one topic's row whenever the row is there: `effBumpSeq`, `effSaveMsg` and the effect of `subsUpdate` are instances by
unfolding; `subsDelete`, which decides before it writes, is not of this shape -/
def World.updRow (w : World) (tn : TName) (g : TopicRow → TopicRow) : World :=
  match w.row? tn with
  | some r => w.setRow (g r)
  | none => w

theorem live_updRow (w : World) (tn : TName) (g : TopicRow → TopicRow) (k : TName) : (w.updRow tn g).live? k = w.live? k := by
  unfold World.updRow; split <;> rfl
theorem sess_updRow (w : World) (tn : TName) (g : TopicRow → TopicRow) : (w.updRow tn g).sess = w.sess := by
  unfold World.updRow; split <;> rfl
theorem row_updRow {w : World} {tn : TName} {r : TopicRow} (g : TopicRow → TopicRow) (h : w.row? tn = some r)
    (hg : (g r).name = r.name) : (w.updRow tn g).row? tn = some (g r) := by
  unfold World.updRow
  rw [h, ← row_name h, ← hg]
  exact row_setRow w (g r)

@[simp] theorem emit_pushes (c : Ctx) (s f) : (c.emit s f).pushes = c.pushes := rfl
@[simp] theorem emit_calls (c : Ctx) (s f) : (c.emit s f).calls = c.calls := rfl
@[simp] theorem emit_routed (c : Ctx) (s f) : (c.emit s f).routed = c.routed := rfl
@[simp] theorem emit_frames (c : Ctx) (s f) : (c.emit s f).frames = c.frames ++ [(s, f)] := rfl
@[simp] theorem emit_failK (c : Ctx) (s f) : (c.emit s f).failK = c.failK := rfl
@[simp] theorem emit_callNo (c : Ctx) (s f) : (c.emit s f).callNo = c.callNo := rfl

@[simp] theorem putLive_w (c : Ctx) (t : Topic) : (c.putLive t).w = c.w.setLive t := rfl
@[simp] theorem putLive_frames (c : Ctx) (t : Topic) : (c.putLive t).frames = c.frames := rfl
@[simp] theorem putLive_pushes (c : Ctx) (t : Topic) : (c.putLive t).pushes = c.pushes := rfl
@[simp] theorem putLive_routed (c : Ctx) (t : Topic) : (c.putLive t).routed = c.routed := rfl

/-! `presSubsOffline`, `presSingleOffline`, `presSingleOfflineOffline`, `infoSubsOffline` (Model/TopicGrp.lean) touch nothing but `off`, the queue
of notifications addressed to users' `me` topics. The other nine fields, one lemma each. -/
section
open Tinode.Acs
variable (c : Ctx) (t : Topic) (orig what base cmd : String) (actor target uid : Uid) (m1 m2 : Mode) (tgt : PresMsg) (sk : Sid) (b : Bool)
@[simp] theorem Ctx.presSubsOffline_frames : (c.presSubsOffline t what base actor target m1 m2 tgt sk b cmd).frames = c.frames := rfl
@[simp] theorem Ctx.presSubsOffline_w : (c.presSubsOffline t what base actor target m1 m2 tgt sk b cmd).w = c.w := rfl
@[simp] theorem Ctx.presSubsOffline_pushes : (c.presSubsOffline t what base actor target m1 m2 tgt sk b cmd).pushes = c.pushes := rfl
@[simp] theorem Ctx.presSubsOffline_calls : (c.presSubsOffline t what base actor target m1 m2 tgt sk b cmd).calls = c.calls := rfl
@[simp] theorem Ctx.presSubsOffline_callNo : (c.presSubsOffline t what base actor target m1 m2 tgt sk b cmd).callNo = c.callNo := rfl
@[simp] theorem Ctx.presSubsOffline_failK : (c.presSubsOffline t what base actor target m1 m2 tgt sk b cmd).failK = c.failK := rfl
@[simp] theorem Ctx.presSubsOffline_crashK : (c.presSubsOffline t what base actor target m1 m2 tgt sk b cmd).crashK = c.crashK := rfl
@[simp] theorem Ctx.presSubsOffline_snap : (c.presSubsOffline t what base actor target m1 m2 tgt sk b cmd).snap = c.snap := rfl
@[simp] theorem Ctx.presSubsOffline_routed : (c.presSubsOffline t what base actor target m1 m2 tgt sk b cmd).routed = c.routed := rfl
@[simp] theorem Ctx.presSingleOffline_frames : (c.presSingleOffline t uid m1 what base actor target sk b cmd).frames = c.frames := rfl
@[simp] theorem Ctx.presSingleOffline_w : (c.presSingleOffline t uid m1 what base actor target sk b cmd).w = c.w := rfl
@[simp] theorem Ctx.presSingleOffline_pushes : (c.presSingleOffline t uid m1 what base actor target sk b cmd).pushes = c.pushes := rfl
@[simp] theorem Ctx.presSingleOffline_calls : (c.presSingleOffline t uid m1 what base actor target sk b cmd).calls = c.calls := rfl
@[simp] theorem Ctx.presSingleOffline_callNo : (c.presSingleOffline t uid m1 what base actor target sk b cmd).callNo = c.callNo := rfl
@[simp] theorem Ctx.presSingleOffline_failK : (c.presSingleOffline t uid m1 what base actor target sk b cmd).failK = c.failK := rfl
@[simp] theorem Ctx.presSingleOffline_crashK : (c.presSingleOffline t uid m1 what base actor target sk b cmd).crashK = c.crashK := rfl
@[simp] theorem Ctx.presSingleOffline_snap : (c.presSingleOffline t uid m1 what base actor target sk b cmd).snap = c.snap := rfl
@[simp] theorem Ctx.presSingleOffline_routed : (c.presSingleOffline t uid m1 what base actor target sk b cmd).routed = c.routed := rfl
@[simp] theorem Ctx.presSingleOfflineOffline_frames : (c.presSingleOfflineOffline uid orig what base actor target sk cmd).frames = c.frames := rfl
@[simp] theorem Ctx.presSingleOfflineOffline_w : (c.presSingleOfflineOffline uid orig what base actor target sk cmd).w = c.w := rfl
@[simp] theorem Ctx.presSingleOfflineOffline_pushes : (c.presSingleOfflineOffline uid orig what base actor target sk cmd).pushes = c.pushes := rfl
@[simp] theorem Ctx.presSingleOfflineOffline_calls : (c.presSingleOfflineOffline uid orig what base actor target sk cmd).calls = c.calls := rfl
@[simp] theorem Ctx.presSingleOfflineOffline_callNo : (c.presSingleOfflineOffline uid orig what base actor target sk cmd).callNo = c.callNo := rfl
@[simp] theorem Ctx.presSingleOfflineOffline_failK : (c.presSingleOfflineOffline uid orig what base actor target sk cmd).failK = c.failK := rfl
@[simp] theorem Ctx.presSingleOfflineOffline_crashK : (c.presSingleOfflineOffline uid orig what base actor target sk cmd).crashK = c.crashK := rfl
@[simp] theorem Ctx.presSingleOfflineOffline_snap : (c.presSingleOfflineOffline uid orig what base actor target sk cmd).snap = c.snap := rfl
@[simp] theorem Ctx.presSingleOfflineOffline_routed : (c.presSingleOfflineOffline uid orig what base actor target sk cmd).routed = c.routed := rfl
@[simp] theorem Ctx.infoSubsOffline_frames (q : Int) : (c.infoSubsOffline t uid what q sk).frames = c.frames := rfl
@[simp] theorem Ctx.infoSubsOffline_w (q : Int) : (c.infoSubsOffline t uid what q sk).w = c.w := rfl
@[simp] theorem Ctx.infoSubsOffline_pushes (q : Int) : (c.infoSubsOffline t uid what q sk).pushes = c.pushes := rfl
@[simp] theorem Ctx.infoSubsOffline_calls (q : Int) : (c.infoSubsOffline t uid what q sk).calls = c.calls := rfl
@[simp] theorem Ctx.infoSubsOffline_callNo (q : Int) : (c.infoSubsOffline t uid what q sk).callNo = c.callNo := rfl
@[simp] theorem Ctx.infoSubsOffline_failK (q : Int) : (c.infoSubsOffline t uid what q sk).failK = c.failK := rfl
@[simp] theorem Ctx.infoSubsOffline_crashK (q : Int) : (c.infoSubsOffline t uid what q sk).crashK = c.crashK := rfl
@[simp] theorem Ctx.infoSubsOffline_snap (q : Int) : (c.infoSubsOffline t uid what q sk).snap = c.snap := rfl
@[simp] theorem Ctx.infoSubsOffline_routed (q : Int) : (c.infoSubsOffline t uid what q sk).routed = c.routed := rfl
end

/-- `Ctx.call` without the local definitions -/
theorem call_eq (c : Ctx) (name : String) (e : World → World) : c.call name e =
    if c.failK ≠ 0 ∧ c.callNo + 1 = c.failK then ({ c with callNo := c.callNo + 1, calls := c.calls ++ [name] }, false)
    else if c.crashK ≠ 0 ∧ c.callNo + 1 = c.crashK then
      ({ c with callNo := c.callNo + 1, calls := c.calls ++ [name], w := e c.w, snap := some (e c.w).store }, true)
    else ({ c with callNo := c.callNo + 1, calls := c.calls ++ [name], w := e c.w }, true) := by
  unfold Ctx.call
  dsimp only
  split
  · rfl
  · split <;> rfl

/-- a call is logged and counted; of the rest it touches the world and the crash snapshot only -/
theorem call_fst (c : Ctx) (name : String) (e : World → World) : (c.call name e).1 =
    { c with callNo := c.callNo + 1, calls := c.calls ++ [name], w := (c.call name e).1.w, snap := (c.call name e).1.snap } := by
  rw [call_eq]; split
  · rfl
  · split <;> rfl

@[simp] theorem call_frames (c : Ctx) (name : String) (e : World → World) : (c.call name e).1.frames = c.frames := by rw [call_fst]
@[simp] theorem call_pushes (c : Ctx) (name : String) (e : World → World) : (c.call name e).1.pushes = c.pushes := by rw [call_fst]
@[simp] theorem call_routed (c : Ctx) (name : String) (e : World → World) : (c.call name e).1.routed = c.routed := by rw [call_fst]
@[simp] theorem call_failK (c : Ctx) (name : String) (e : World → World) : (c.call name e).1.failK = c.failK := by rw [call_fst]
@[simp] theorem call_callNo (c : Ctx) (name : String) (e : World → World) : (c.call name e).1.callNo = c.callNo + 1 := by rw [call_fst]
theorem call_calls (c : Ctx) (name : String) (e : World → World) : (c.call name e).1.calls = c.calls ++ [name] := by rw [call_fst]

theorem call_w (c : Ctx) (name : String) (e : World → World) :
    (c.call name e).1.w = if (c.call name e).2 then e c.w else c.w := by
  rw [call_eq]; split
  · rfl
  · split <;> rfl

theorem call_snd (c : Ctx) (name : String) (e : World → World) :
    (c.call name e).2 = !decide (c.failK ≠ 0 ∧ c.callNo + 1 = c.failK) := by
  rw [call_eq]; split
  · rw [decide_eq_true ‹_›]; rfl
  · rw [decide_eq_false ‹_›]; split <;> rfl

theorem call_ok (c : Ctx) (name : String) (e : World → World) (h : c.failK = 0 ∨ c.callNo + 1 ≠ c.failK) :
    (c.call name e).2 = true ∧ (c.call name e).1.w = e c.w := by
  have : (c.call name e).2 = true := by
    rw [call_snd, decide_eq_false fun ⟨h0, h1⟩ => h.elim h0 (· h1)]; rfl
  exact ⟨this, by rw [call_w, this]; rfl⟩

/-- whether a store call succeeds does not depend on its effect; a call that succeeds applies it -/
theorem call_of_ok (c : Ctx) (name : String) (hok : (c.call name).2 = true) (eff : World → World) :
    ∃ c', c.call name eff = (c', true) ∧ c'.w = eff c.w :=
  have h : (c.call name eff).2 = true := (call_snd c name eff).trans ((call_snd c name id).symm.trans hok)
  ⟨_, Prod.ext rfl h, by rw [call_w, h]; rfl⟩

/-- a store call which only reads -/
theorem call_reads {c c' : Ctx} {n : String} {ok : Bool} (h : c.call n = (c', ok)) : c'.w = c.w ∧ c'.frames = c.frames := by
  obtain rfl : (c.call n).1 = c' := congrArg Prod.fst h
  exact ⟨by rw [call_w]; split <;> rfl, call_frames ..⟩

/-- Whatever a sequence of adapter calls does, it sends, pushes and queues nothing and - its effects being effects on the store -
leaves the loaded topics and the sessions alone. -/
structure StoreOnly (c c1 : Ctx) : Prop where
  frames : c1.frames = c.frames
  pushes : c1.pushes = c.pushes
  routed : c1.routed = c.routed
  off : c1.off = c.off
  live : ∀ k, c1.w.live? k = c.w.live? k
  sess : c1.w.sess = c.w.sess

theorem StoreOnly.trans {c c1 c2 : Ctx} (h : StoreOnly c c1) (h' : StoreOnly c1 c2) : StoreOnly c c2 :=
  ⟨h'.frames.trans h.frames, h'.pushes.trans h.pushes, h'.routed.trans h.routed, h'.off.trans h.off, fun k => (h'.live k).trans (h.live k),
    h'.sess.trans h.sess⟩

theorem call_storeOnly (c : Ctx) {name : String} {e : World → World} (hl : ∀ w k, (e w).live? k = w.live? k)
    (hs : ∀ w, (e w).sess = w.sess) : StoreOnly c (c.call name e).1 := by
  refine ⟨call_frames .., call_pushes .., call_routed .., by rw [call_fst], fun k => ?_, ?_⟩ <;> rw [call_w] <;> split
  · exact hl ..
  · rfl
  · exact hs ..
  · rfl

/-- `h` is where the nested conditions of a particular fold are read as one. Instances, each with its list of recipients:
`fanoutData_eq` (`dataRcpt`) below, `C09.fanoutInfo_eq` (`infoRcpt`), `C02.fanoutDataC_eq` (`dataRcptC`), `C02.fanoutInfoC_eq`
(`infoRcptC`), `C10.deliver_one` (`presRcpt`). -/
theorem foldl_emit {β} (l : List β) {step : Ctx → β → Ctx} {keep : β → Bool} (sidOf : β → Sid) (f : String)
    (h : ∀ c x, step c x = if keep x then c.emit (sidOf x) f else c) (c : Ctx) :
    l.foldl step c = { c with frames := c.frames ++ (l.filter keep).map (fun x => (sidOf x, f)) } := by
  induction l generalizing c with
  | nil => simp
  | cons x xs ih =>
    rw [List.foldl_cons, ih, h]
    cases hk : keep x <;> simp [hk, Ctx.emit]

/-- For a fan-out whose step reads the context, so that `foldl_emit` does not apply (`Ctx.forwardOnMe`): `c'` is `c` with more frames queued,
each for a session `S` admits; nothing else about the context differs (so it does not hold of the evicting folds, whose steps detach the session
first). The relation is reflexive and transitive, so what holds of every step of a fold holds of the fold. -/
def Sends (S : Sid → Prop) (c c' : Ctx) : Prop := ∃ fs, c' = { c with frames := c.frames ++ fs } ∧ ∀ e ∈ fs, S e.1

theorem Sends.refl {S : Sid → Prop} {c : Ctx} : Sends S c c := ⟨[], by simp, nofun⟩

theorem Sends.emit {S : Sid → Prop} {c : Ctx} {s : Sid} (h : S s) (g : String) : Sends S c (c.emit s g) :=
  ⟨[(s, g)], rfl, fun _ he => List.mem_singleton.mp he ▸ h⟩

theorem Sends.trans {S : Sid → Prop} {c c1 c2 : Ctx} (h : Sends S c c1) (h' : Sends S c1 c2) : Sends S c c2 := by
  obtain ⟨fs, rfl, hm⟩ := h
  obtain ⟨fs', rfl, hm'⟩ := h'
  exact ⟨fs ++ fs', by simp, fun e he => (List.mem_append.mp he).elim (hm e) (hm' e)⟩

theorem Sends.foldl {α} {S : Sid → Prop} {f : Ctx → α → Ctx} {l : List α} (h : ∀ c, ∀ x ∈ l, Sends S c (f c x)) (c : Ctx) :
    Sends S c (l.foldl f c) :=
  List.foldlRecOn l f .refl fun c' hc x hx => hc.trans (h c' x hx)

theorem Sends.mem {S : Sid → Prop} {c c' : Ctx} (h : Sends S c c') {e : Sid × String} (he : e ∈ c'.frames) :
    e ∈ c.frames ∨ S e.1 := by
  obtain ⟨fs, rfl, hm⟩ := h
  exact (List.mem_append.mp he).imp_right (hm e)

/-- the sessions that receive a {data} message -/
def dataRcpt (t : Topic) (skipSid : Sid) : List (Sid × Uid) :=
  t.sessions.filter (fun (sid, uid) => !(decide (sid = skipSid) || !t.userIsReader uid))

theorem fanoutData_eq (c : Ctx) (t : Topic) (skipSid : Sid) (f : String) :
    c.fanoutData t skipSid f = { c with frames := c.frames ++ (dataRcpt t skipSid).map (fun x => (x.1, f)) } :=
  foldl_emit t.sessions (·.1) f
    (fun c ⟨sid, uid⟩ => by by_cases h1 : sid = skipSid <;> cases h2 : t.userIsReader uid <;> simp [h1, h2]) c

end Tinode.World
