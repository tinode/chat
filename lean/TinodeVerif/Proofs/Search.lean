import TinodeVerif.Spec.Query
import TinodeVerif.Proofs.Lists
/-!
Simulation of the parseSearchQuery state machine (`Model/Search.lean`) by the declarative scanner (`Spec/Query.lean`).

The scanner reads whole items (a separator run, a bare word, a quoted string); the machine is followed over the runes of one
item at a time (`run_sep`, `run_start`), from one of two kinds of position to the other: right after a term (`AfterTerm`) and at
the start or right after a separator run (`Boundary`). `SimAfterTerm` and `SimAtBoundary` say that from such a position machine
and scanner agree on the rest of the query; each follows from the other by one unfolding of the scanner.

A new fact about the parser is best proved about the scanner - `lexItems` through its productions `lexItems_nil/_sep/_quote/_unterminated/_word`
with `exists_run`, and `classify` - and carried over by `sim` (or `C19.parse_eq_grammar`): nothing of the machine side is needed for that.
-/
namespace Tinode.Search
open Tinode.Spec.Query

variable (q : List Char) (rw : List Char → List Char)

/-- the loop without the END iteration -/
def runChars : List Char → Nat → St → Except QErr St
  | [], _, st => .ok st
  | c :: cs, i, st =>
    match stepRune q rw st (some c) i with
    | .error e => .error e
    | .ok st' => runChars cs (i + 1) st'

/-- any loop `F` that consumes runes as `runLoop` and `runChars` do splits at an append -/
theorem run_append (F : List Char → Nat → St → Except QErr St)
    (hF : ∀ c cs i st, F (c :: cs) i st =
      match stepRune q rw st (some c) i with
      | .error e => .error e
      | .ok st' => F cs (i + 1) st')
    (xs ys : List Char) (i : Nat) (st : St) :
    F (xs ++ ys) i st =
      match runChars q rw xs i st with
      | .error e => .error e
      | .ok st1 => F ys (i + xs.length) st1 := by
  induction xs generalizing i st with
  | nil => rfl
  | cons x xs ih =>
    simp only [List.cons_append, hF, runChars, List.length_cons, Nat.add_comm xs.length, ← Nat.add_assoc]
    cases stepRune q rw st (some x) i with
    | error e => rfl
    | ok st' => exact ih (i + 1) st'

theorem runLoop_append (xs ys : List Char) (i : Nat) (st : St) :
    runLoop q rw (xs ++ ys) i st =
      match runChars q rw xs i st with
      | .error e => .error e
      | .ok st1 => runLoop q rw ys (i + xs.length) st1 :=
  run_append q rw (runLoop q rw) (fun _ _ _ _ => rfl) xs ys i st

theorem runChars_append (xs ys : List Char) (i : Nat) (st : St) :
    runChars q rw (xs ++ ys) i st =
      match runChars q rw xs i st with
      | .error e => .error e
      | .ok st1 => runChars q rw ys (i + xs.length) st1 :=
  run_append q rw (runChars q rw) (fun _ _ _ _ => rfl) xs ys i st

/-- both fail, or the machine has put out the grammar's tokens (once the option is known to be `some _`, `obtain ⟨st, hs, ho⟩ := h` takes it apart; for `none`, `⟨e, he⟩`) -/
def Agrees (o : Option (List Tok)) (r : Except QErr St) : Prop :=
  match o with
  | none => ∃ e, r = .error e
  | some toks => ∃ st, r = .ok st ∧ st.out = toks

theorem Agrees.error (e : QErr) : Agrees none (.error e) := ⟨e, rfl⟩

theorem Agrees.ok {st : St} {toks : List Tok} (h : st.out = toks) : Agrees (some toks) (.ok st) := ⟨st, rfl, h⟩

theorem lex_word (c : Char) (h : isWordChar c = true) : lexRune false (some c) = .ord := by
  simp [isWordChar, isSepChar] at h
  simp [lexRune, h]

theorem lex_inquote (c : Char) (h : c ≠ '"') : lexRune true (some c) = .ord := by
  simp [lexRune, h]

theorem lex_quote (b : Bool) : lexRune b (some '"') = .quo := by simp [lexRune]

theorem lex_sep (c : Char) (h : isSepChar c = true) :
    lexRune false (some c) = if c = ',' then .or else .and := by
  simp [isSepChar] at h
  rcases h with (h | h) | h <;> subst h <;> simp [lexRune]

theorem step_mid (st : St) (c : Char) (i : Nat) (hl : lexRune st.ctx.quo (some c) = .ord)
    (hp : st.prev = .ord) (hc : st.ctx.closed = false) : stepRune q rw st (some c) i = .ok st := by
  obtain ⟨⟨⟩, _, _⟩ := st
  simp_all [stepRune, stepOrd, emitAndFinish, finish]

theorem run_mid (w : List Char) (st : St) (i : Nat) (hl : ∀ c ∈ w, lexRune st.ctx.quo (some c) = .ord)
    (hp : st.prev = .ord) (hc : st.ctx.closed = false) : runChars q rw w i st = .ok st := by
  induction w generalizing i with
  | nil => rfl
  | cons c w ih =>
    simp only [runChars, step_mid q rw st c i (hl c (by simp)) hp hc]
    exact ih (i + 1) (fun x hx => hl x (by simp [hx]))

def sepSt (st : St) (c : Char) (i : Nat) : St :=
  { ctx := { st.ctx with postOp := if c = ',' ∨ st.ctx.postOp = .or then .or else .and,
                         end_ := if st.prev = .ord then i else st.ctx.end_, closed := false },
    out := st.out, prev := if c = ',' then .or else .and }

/-- `hp`: right after a term no comma is pending, since the term's first rune reset `postOp`; `stepAnd` relies on it when it
overwrites `postOp` there without looking. -/
theorem step_sep (st : St) (c : Char) (i : Nat) (hs : isSepChar c = true) (hq : st.ctx.quo = false)
    (hp : st.prev = .ord → st.ctx.postOp ≠ .or) :
    stepRune q rw st (some c) i =
      if c = ',' ∧ st.ctx.postOp = .or then .error .operatorSequence else .ok (sepSt st c i) := by
  simp only [stepRune, hq, lex_sep c hs, sepSt]
  by_cases hc : c = ','
  · by_cases ho : st.ctx.postOp = .or <;> simp [hc, ho, hq, stepOr, finish]
  · by_cases ho : st.ctx.postOp = .or <;> by_cases hpo : st.prev = .ord <;> simp_all [stepAnd, finish]

/-- a whole non-empty separator run: a second comma (counting one seen before the run) is an error; otherwise only
`postOp` records what the run held, and `end_` where the term before it ended -/
theorem run_sep (c : Char) (cs : List Char) (st : St) (i : Nat) (hs : ∀ x ∈ c :: cs, isSepChar x = true)
    (hq : st.ctx.quo = false) (hp : st.prev = .ord → st.ctx.postOp ≠ .or) :
    let k := ((c :: cs).filter (· = ',')).length + (if st.ctx.postOp = .or then 1 else 0)
    if k ≥ 2 then runChars q rw (c :: cs) i st = .error .operatorSequence
    else ∃ st', runChars q rw (c :: cs) i st = .ok st' ∧
      st'.ctx = { st.ctx with postOp := if k = 1 then .or else .and,
                              end_ := if st.prev = .ord then i else st.ctx.end_, closed := false } ∧
      st'.out = st.out ∧ (st'.prev = .and ∨ st'.prev = .or) := by
  induction cs generalizing c st i with
  | nil =>
    simp only [runChars, step_sep q rw st c i (hs c (by simp)) hq hp, sepSt]
    by_cases hc : c = ',' <;> by_cases ho : st.ctx.postOp = .or <;> simp [hc, ho]
  | cons d cs ih =>
    rw [runChars, step_sep q rw st c i (hs c (by simp)) hq hp]
    have := ih d (sepSt st c i) (i + 1) (fun x hx => hs x (by simp [hx])) hq (by simp [sepSt]; split <;> simp)
    -- unless `c` is a second comma, `k` is the same for `c :: d :: cs` from `st` and for `d :: cs` from `sepSt st c i`
    by_cases hc : c = ','
    · by_cases ho : st.ctx.postOp = .or
      · simp [hc, ho, List.filter_cons]
      · -- the first comma: `sepSt` records it in `postOp`, where the `k` of `d :: cs` counts it
        simpa [hc, ho, sepSt, List.filter_cons] using this
    · -- a blank adds nothing to `k`, and `sepSt` keeps in `postOp` a comma seen before
      simpa [hc, sepSt, List.filter_cons] using this

/-- the pending term read off the context is the grammar's token of the slice it delimits -/
theorem pendingTok_eq (pre v rest : List Char) (ctx : Ctx) (hq : q = pre ++ v ++ rest)
    (hs : (if ctx.unquote then ctx.start + 1 else ctx.start) = pre.length)
    (he : (if ctx.unquote then ctx.end_ - 1 else ctx.end_) = pre.length + v.length)
    (hpre : ctx.preOp = .and ∨ ctx.preOp = .or) :
    pendingTok q rw ctx = mkTok rw v (decide (ctx.preOp = .or) || decide (ctx.postOp = .or)) := by
  have hv : (q.drop pre.length).take (pre.length + v.length - pre.length) = v := by
    rw [hq, List.append_assoc, List.drop_left, Nat.add_sub_cancel_left, List.take_left]
  simp only [pendingTok, mkTok, hs, he, hv]
  by_cases hw : v = []
  · simp [hw]
  · have : 0 < v.length := List.length_pos_iff.mpr hw
    rcases hpre with h | h <;> by_cases hp : ctx.postOp = .or <;> simp [h, hp, hw, this]

/-! ### the scanner, one equation per production: the item's runes, then the rest of the query -/

theorem lexItems_nil (fuel : Nat) : lexItems fuel [] = some [] := by cases fuel <;> rfl

theorem lexItems_sep (fuel : Nat) (c : Char) (run rest : List Char) (hrun : ∀ x ∈ c :: run, isSepChar x = true)
    (hrest : ∀ d ∈ rest.head?, isSepChar d = false) :
    lexItems (fuel + 1) (c :: run ++ rest) =
      if ((c :: run).filter (· = ',')).length ≥ 2 then none
      else (lexItems fuel rest).map (Item.sep (((c :: run).filter (· = ',')).length = 1) :: ·) := by
  obtain ⟨h1, h2⟩ := takeWhile_dropWhile_append isSepChar hrun hrest
  rw [List.cons_append, lexItems, if_pos (hrun c (by simp)), ← List.cons_append, h1, h2]

/-- after a term the scanner goes on only at a separator or at the end -/
def afterTermItems (fuel : Nat) (rest : List Char) : Option (List Item) :=
  if rest.head?.all isSepChar then lexItems fuel rest else none

theorem lexItems_quote (fuel : Nat) (body rest : List Char) (hbody : ∀ x ∈ body, x ≠ '"') :
    lexItems (fuel + 1) ('"' :: body ++ '"' :: rest) = (afterTermItems fuel rest).map (Item.term body :: ·) := by
  obtain ⟨h1, h2⟩ := takeWhile_dropWhile_append (· ≠ '"') (run := body) (rest := '"' :: rest) (by simpa using hbody) (by simp)
  rw [List.cons_append, lexItems, if_neg (by decide), if_pos rfl]
  simp only [h1, h2, afterTermItems]
  cases rest with
  | nil => simp [lexItems_nil]
  | cons d _ => cases h : isSepChar d <;> simp [h]

theorem lexItems_unterminated (fuel : Nat) (body : List Char) (hbody : ∀ x ∈ body, x ≠ '"') :
    lexItems (fuel + 1) ('"' :: body) = none := by
  obtain ⟨-, h2⟩ := takeWhile_dropWhile_append (· ≠ '"') (run := body) (rest := []) (by simpa using hbody) (by simp)
  rw [List.append_nil] at h2
  rw [lexItems, if_neg (by decide), if_pos rfl]
  simp only [h2]

theorem lexItems_word (fuel : Nat) (c : Char) (w rest : List Char) (hw : ∀ x ∈ c :: w, isWordChar x = true)
    (hrest : ∀ d ∈ rest.head?, isWordChar d = false) :
    lexItems (fuel + 1) (c :: w ++ rest) = (afterTermItems fuel rest).map (Item.term (c :: w) :: ·) := by
  obtain ⟨h1, h2⟩ := takeWhile_dropWhile_append isWordChar hw hrest
  have hc := hw c (by simp)
  simp only [isWordChar, Bool.and_eq_true, Bool.not_eq_true', decide_eq_true_eq] at hc
  rw [List.cons_append, lexItems, if_neg (by simp [hc.1]), if_neg hc.2, ← List.cons_append, h1, h2, afterTermItems]
  -- the rune after the word is not a word rune: it is a quote or a separator
  cases rest with
  | nil => simp
  | cons d _ =>
    have := hrest d rfl
    by_cases hq : d = '"'
    · simp [hq, isSepChar]
    · have : isSepChar d = true := by simpa [isWordChar, hq] using this
      simp [hq, this]

/-- machine state right after a complete term `v` that ends just before index `e`; `before`: a comma precedes it -/
structure AfterTerm (st : St) (e : Nat) (v : List Char) (before : Bool) : Prop where
  /-- a separator or END read next, at index `e`, leaves `end_ = e`: it stores its index if `prev = .ord`, and keeps `end_` if not -/
  endok : (if st.prev = .ord then e else st.ctx.end_) = e
  quo : st.ctx.quo = false
  post : st.ctx.postOp = .none
  /-- once `end_ = e` the pending term is `v`, whatever the separator run after it makes of `postOp` (a comma there makes it an
  OR term too) and of `closed` -/
  pend : ∀ p cl, pendingTok q rw { st.ctx with postOp := p, end_ := e, closed := cl } =
    mkTok rw v (before || decide (p = .or))

/-- machine state at the start of the query or right after a separator run, at index `i` -/
structure Boundary (st : St) (i : Nat) : Prop where
  quo : st.ctx.quo = false
  closed : st.ctx.closed = false
  prev : st.prev = .none ∨ st.prev = .and ∨ st.prev = .or
  init : st.prev = .none → i = 0 ∧ st.ctx.start = 0 ∧ st.ctx.unquote = false ∧ st.ctx.preOp = .and ∧
    st.ctx.postOp = .none ∧ pendingTok q rw st.ctx = []
  post : st.prev ≠ .none → (st.ctx.postOp = .and ∨ st.ctx.postOp = .or)

/-- after a term the grammar wants a separator or the end; where it finds neither, the machine must be in a state that
rejects the next rune: this is the hypothesis about `rest.head?` -/
def SimAfterTerm (fuel : Nat) : Prop :=
  ∀ (pre rest : List Char) (st : St) (v : List Char) (before : Bool),
    q = pre ++ rest → AfterTerm q rw st pre.length v before → rest.length < fuel →
    (∀ d ∈ rest.head?, isSepChar d = false → st.prev = .ord ∧ (st.ctx.closed = true ∨ d = '"')) →
    Agrees ((afterTermItems fuel rest).map fun items =>
        st.out ++ classify rw before (Item.term v :: items))
      (runLoop q rw rest pre.length st)

/-- at a boundary the separator run after the pending term has been read, so its token is known -/
def SimAtBoundary (fuel : Nat) : Prop :=
  ∀ (pre rest : List Char) (st : St),
    q = pre ++ rest → Boundary q rw st pre.length → rest.length < fuel →
    (∀ d ∈ rest.head?, isSepChar d = false) →
    Agrees ((lexItems fuel rest).map fun items =>
        st.out ++ pendingTok q rw st.ctx ++ classify rw (decide (st.ctx.postOp = .or)) items)
      (runLoop q rw rest pre.length st)

theorem step_end (st : St) (i : Nat) (hq : st.ctx.quo = false) :
    ∃ st', stepRune q rw st none i = .ok st' ∧
      st'.out = st.out ++ pendingTok q rw { st.ctx with end_ := if st.prev = .ord then i else st.ctx.end_ } := by
  simp [stepRune, lexRune, stepEnd, emitAndFinish, hq, finish]

theorem step_end_inquote (st : St) (i : Nat) (hq : st.ctx.quo = true) : stepRune q rw st none i = .error .unterminated := by
  simp [stepRune, lexRune, stepEnd, emitAndFinish, hq]

/-- a rune glued to a closing quote, or a quote glued to a word, is rejected -/
theorem step_glued (st : St) (c : Char) (i : Nat) (hc : isSepChar c = false) (hq : st.ctx.quo = false)
    (hp : st.prev = .ord) (hcl : st.ctx.closed = true ∨ c = '"') :
    stepRune q rw st (some c) i = .error .missingOperator := by
  by_cases hcq : c = '"'
  · simp [stepRune, hcq, lex_quote, hq, stepOrd, hp]
  · have : isWordChar c = true := by simp [isWordChar, hc, hcq]
    simp [stepRune, hq, lex_word c this, stepOrd, hp, hcl.resolve_right hcq]

theorem simAfterTerm_succ (fuel : Nat) (hB : SimAtBoundary q rw fuel) : SimAfterTerm q rw (fuel + 1) := by
  intro pre rest st v before hq hat hlen hstop
  cases rest with
  | nil =>
    obtain ⟨st', h1, h2⟩ := step_end q rw st pre.length hat.quo
    rw [runLoop, h1]
    exact .ok (by simpa [h2, hat.endok, classify, hat.post] using hat.pend st.ctx.postOp st.ctx.closed)
  | cons c cs =>
    by_cases hc : isSepChar c = true
    · -- the separator run `c :: run` and what follows it
      obtain ⟨run, rest', rfl, hrun, hrest⟩ := exists_run isSepChar cs
      have hsep : ∀ x ∈ c :: run, isSepChar x = true := List.forall_mem_cons.mpr ⟨hc, hrun⟩
      have hrs := run_sep q rw c run st pre.length hsep hat.quo (by simp [hat.post])
      simp only [hat.post, reduceCtorEq, if_false, Nat.add_zero] at hrs
      simp only [afterTermItems, List.head?_cons, Option.all_some, hc, if_true]
      rw [← List.cons_append, lexItems_sep fuel c run rest' hsep hrest, runLoop_append]
      split
      next h2 =>
        rw [if_pos h2] at hrs
        rw [hrs]
        exact .error _
      next h2 =>
        rw [if_neg h2, hat.endok] at hrs
        obtain ⟨st2, hr1, hr2, hr3, hr4⟩ := hrs
        have hb : Boundary q rw st2 (pre ++ c :: run).length :=
          ⟨hr2 ▸ hat.quo, hr2 ▸ rfl, .inr hr4, fun h => by simp [h] at hr4,
           fun _ => by rw [hr2]; dsimp only; split <;> simp⟩
        have := hB (pre ++ c :: run) rest' st2 (by simp [hq]) hb (by simp at hlen ⊢; omega) hrest
        rw [hr3, hr2, hat.pend] at this
        rw [hr1, ← List.length_append]
        simpa [Option.map_map, Function.comp_def, classify] using this
    · -- no separator: the machine rejects the rune
      obtain ⟨hp, hcl⟩ := hstop c rfl (by simpa using hc)
      rw [runLoop, step_glued q rw st c _ (by simpa using hc) hat.quo hp hcl]
      simpa [afterTermItems, hc] using Agrees.error _

/-- the state right after the first rune of a term entered from a boundary (`opening`: the rune is a quote) -/
def startSt (st : St) (i : Nat) (opening : Bool) : St :=
  { ctx := { preOp := if st.ctx.postOp = .or then .or else .and, postOp := .none, quo := opening, unquote := opening,
             closed := false, start := i, end_ := st.ctx.end_ },
    out := st.out ++ pendingTok q rw st.ctx, prev := .ord }

theorem run_start (st : St) (i : Nat) (c : Char) (w : List Char) (opening : Bool) (hb : Boundary q rw st i)
    (hc : lexRune false (some c) = if opening then .quo else .ord)
    (hw : ∀ x ∈ w, lexRune opening (some x) = .ord) :
    runChars q rw (c :: w) i st = .ok (startSt q rw st i opening) := by
  have h1 : stepRune q rw st (some c) i = .ok (startSt q rw st i opening) := by
    have : stepRune q rw st (some c) i = stepOrd q rw st i opening false := by
      cases opening <;> simp [stepRune, hb.quo, hc]
    rw [this]
    -- at the very start of the query nothing is emitted
    rcases hb.prev with h | h | h
    · obtain ⟨h1, h2, h3, h4, h5, h6⟩ := hb.init h
      cases opening <;> simp [stepOrd, emitAndFinish, finish, startSt, h, hb.closed, hb.quo, h1, h2, h3, h4, h5, h6]
    all_goals
      rcases hb.post (by simp [h]) with hp | hp <;> cases opening <;>
        simp [stepOrd, emitAndFinish, finish, emitCtx, startSt, h, hp, hb.closed, hb.quo]
  simp only [runChars, h1]
  exact run_mid q rw w _ _ hw rfl rfl

def quotedSt (st : St) (i : Nat) : St :=
  let s := startSt q rw st i true
  { s with ctx := { s.ctx with quo := false, closed := true } }

theorem step_close (st : St) (i j : Nat) :
    stepRune q rw (startSt q rw st i true) (some '"') j = .ok (quotedSt q rw st i) := by
  simp [stepRune, lex_quote, stepOrd, emitAndFinish, finish, startSt, quotedSt]

theorem afterTerm_word (st : St) (pre w rest : List Char) (hq : q = pre ++ w ++ rest) :
    AfterTerm q rw (startSt q rw st pre.length false) (pre ++ w).length w (decide (st.ctx.postOp = .or)) := by
  refine ⟨by simp [startSt], rfl, rfl, fun p cl => ?_⟩
  rw [pendingTok_eq q rw pre w rest _ hq (by simp [startSt]) (by simp [startSt]) (by dsimp only [startSt]; split <;> simp)]
  by_cases h : st.ctx.postOp = .or <;> simp [startSt, h]

theorem afterTerm_quoted (st : St) (pre body rest : List Char) (hq : q = pre ++ ('"' :: body ++ ['"']) ++ rest) :
    AfterTerm q rw (quotedSt q rw st pre.length) (pre ++ ('"' :: body ++ ['"'])).length body
      (decide (st.ctx.postOp = .or)) := by
  refine ⟨by simp [quotedSt, startSt], rfl, rfl, fun p cl => ?_⟩
  rw [pendingTok_eq q rw (pre ++ ['"']) body ('"' :: rest) _ (by simp [hq]) (by simp [quotedSt, startSt])
    (by simp [quotedSt, startSt]; omega) (by dsimp only [quotedSt, startSt]; split <;> simp)]
  by_cases h : st.ctx.postOp = .or <;> simp [quotedSt, startSt, h]

theorem simAtBoundary_succ (fuel : Nat) (hA : SimAfterTerm q rw fuel) : SimAtBoundary q rw (fuel + 1) := by
  intro pre rest st hq hb hlen hns
  cases rest with
  | nil =>
    obtain ⟨st', h1, h2⟩ := step_end q rw st pre.length hb.quo
    have : st.prev ≠ .ord := by rcases hb.prev with h | h | h <;> simp [h]
    rw [runLoop, h1]
    exact .ok (by simpa [classify, this] using h2)
  | cons c cs =>
    have hc := hns c rfl
    by_cases hquote : c = '"'
    · subst hquote
      obtain ⟨body, tail, rfl, hbody', htail⟩ := exists_run (· ≠ '"') cs
      have hbody : ∀ x ∈ body, x ≠ '"' := fun x hx => of_decide_eq_true (hbody' x hx)
      have hr := run_start q rw st pre.length '"' body true hb (lex_quote _) (fun x hx => lex_inquote x (hbody x hx))
      rw [← List.cons_append, runLoop_append, hr]
      dsimp only
      cases tail with
      | nil =>
        -- unterminated: END arrives inside the quotes
        rw [List.append_nil, lexItems_unterminated fuel body hbody, runLoop, step_end_inquote q rw _ _ rfl]
        exact .error _
      | cons d rest' =>
        obtain rfl : d = '"' := by simpa using htail d rfl
        have hq' : q = pre ++ ('"' :: body ++ ['"']) ++ rest' := by simp [hq]
        have := hA _ rest' _ _ _ hq' (afterTerm_quoted q rw st pre body rest' hq') (by simp at hlen ⊢; omega)
          (fun _ _ _ => ⟨rfl, .inl rfl⟩)
        rw [lexItems_quote fuel body rest' hbody, runLoop, step_close]
        simpa [Option.map_map, Function.comp_def, quotedSt, startSt, Nat.add_assoc] using this
    · have hwc : isWordChar c = true := by simp [isWordChar, hc, hquote]
      obtain ⟨w, rest', rfl, hw, hrest⟩ := exists_run isWordChar cs
      have hword : ∀ x ∈ c :: w, isWordChar x = true := List.forall_mem_cons.mpr ⟨hwc, hw⟩
      have hq' : q = pre ++ (c :: w) ++ rest' := by simp [hq]
      have hr := run_start q rw st pre.length c w false hb (lex_word c hwc) (fun x hx => lex_word x (hw x hx))
      have := hA (pre ++ c :: w) rest' _ _ _ hq' (afterTerm_word q rw st pre (c :: w) rest' hq') (by simp at hlen ⊢; omega)
        (fun d hd hs => ⟨rfl, .inr (by simpa [isWordChar, hs] using hrest d hd)⟩)
      rw [← List.cons_append, lexItems_word fuel c w rest' hword hrest, runLoop_append, ← List.length_append, hr]
      simpa [Option.map_map, Function.comp_def, startSt] using this

theorem sim_all : ∀ fuel, SimAtBoundary q rw fuel ∧ SimAfterTerm q rw fuel
  | 0 => ⟨fun _ _ _ _ _ h => absurd h (Nat.not_lt_zero _), fun _ _ _ _ _ _ _ h => absurd h (Nat.not_lt_zero _)⟩
  | fuel + 1 => ⟨simAtBoundary_succ q rw fuel (sim_all fuel).2, simAfterTerm_succ q rw fuel (sim_all fuel).1⟩

theorem sim : Agrees ((lexItems (q.length + 1) q).map (classify rw false)) (runLoop q rw q 0 {}) := by
  by_cases hsep : q.head?.all isSepChar = true
  · -- the start state is "after an empty term", so a leading separator run needs no special case
    have := (sim_all q rw (q.length + 1)).2 [] q {} [] false rfl
      ⟨rfl, rfl, rfl, fun p cl => by simp [pendingTok, mkTok]⟩ (Nat.lt_succ_self _)
      (fun d hd hs => by rw [hd] at hsep; simp [hs] at hsep)
    simpa [afterTermItems, hsep, classify, mkTok] using this
  · have := (sim_all q rw (q.length + 1)).1 [] q {} rfl
      ⟨rfl, rfl, .inl rfl, fun _ => ⟨rfl, rfl, rfl, rfl, rfl, by simp [pendingTok]⟩, fun h => absurd rfl h⟩
      (Nat.lt_succ_self _) (fun d hd => by rw [hd] at hsep; simpa using hsep)
    simpa [pendingTok] using this

end Tinode.Search
