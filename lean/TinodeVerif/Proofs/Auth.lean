import TinodeVerif.Model.Auth
import TinodeVerif.Proofs.Digits
import TinodeVerif.Proofs.Lists
/-!
What the operations of `Model/Auth.lean` do. The byte conversions are positional notation in base 256 (Proofs/Digits.lean), hence
inverse to each other within the width; the cache is a keyed list; `codeAuth` answers without counting when no attempt is left,
counts a wrong guess, and deletes the entry on success.
-/
namespace Tinode.Auth

theorem toLE_eq_digits (n x : Nat) : toLE n x = digits 256 n x := by
  induction n generalizing x with
  | zero => rfl
  | succ n ih => rw [toLE, digits, ih]

theorem le_eq_ofDigits (bs : List Nat) : le bs = ofDigits 256 bs := by
  induction bs with
  | nil => rfl
  | cons b bs ih => rw [le, ofDigits, ih]

@[simp] theorem length_toLE (n x : Nat) : (toLE n x).length = n := by rw [toLE_eq_digits, digits_length]

theorem le_toLE (n x : Nat) (h : x < 256 ^ n) : le (toLE n x) = x := by
  rw [toLE_eq_digits, le_eq_ofDigits, ofDigits_digits_of_lt h]

/-- the five fields are read back from the 18 bytes at the offsets `tokenAuth` reads them from, provided each fits its width -/
theorem decode_encodeData (r : Rec) (serial : Nat) (hu : r.uid < 2 ^ 64) (he : r.expires < 2 ^ 32) (hl : r.level < 2 ^ 16)
    (hs : serial < 2 ^ 16) (hf : r.features < 2 ^ 16) :
    le ((encodeData r serial).take 8) = r.uid ∧ le (((encodeData r serial).drop 8).take 4) = r.expires ∧
    le (((encodeData r serial).drop 12).take 2) = r.level ∧ le (((encodeData r serial).drop 14).take 2) = serial ∧
    le (((encodeData r serial).drop 16).take 2) = r.features := by
  -- `encodeData` is the concatenation of the fields' `toLE`s, whose lengths are known (`length_toLE`): `drop` and `take` at a field's
  -- offset and width select exactly its `toLE`, which `le_toLE` inverts
  simp [encodeData, List.drop_append, List.drop_eq_nil_of_le, List.take_of_length_le, le_toLE, hu, he, hl, hs, hf]

theorem Cache.get_put (c : Cache) (k : List Char) (e : Entry) : (c.put k e).get k = some e := by
  simp [Cache.put, Cache.get]

theorem Cache.get_del (c : Cache) (k : List Char) : (c.del k).get k = none := by
  rw [Cache.get, Cache.del, find_filter_ne (·.1) c k]
  rfl

section
variable {maxRetries : Nat} {c : Cache} {cred : List Char}

theorem codeAuth_locked (g : List Char) (h : ∀ e ∈ c.get cred, maxRetries ≤ e.attempts) :
    codeAuth maxRetries c cred g = (.error .failed, c) := by
  unfold codeAuth
  split
  · rfl
  · rename_i e he; rw [if_pos (h e he)]

theorem codeAuth_wrong {e : Entry} {g : List Char} (h : c.get cred = some e) (hl : ¬maxRetries ≤ e.attempts)
    (hg : e.code ≠ g) :
    codeAuth maxRetries c cred g = (.error .failed, c.put cred { e with attempts := e.attempts + 1 }) := by
  simp only [codeAuth, h, if_neg hl, if_pos hg]

theorem codeAuth_ok_deletes {g : List Char} {uid : Nat} (h : (codeAuth maxRetries c cred g).1 = .ok uid) :
    (codeAuth maxRetries c cred g).2 = c.del cred := by
  unfold codeAuth at h ⊢
  split at h
  · cases h
  · split at h
    · cases h
    · split at h
      · cases h
      · rename_i h1 h2; rw [if_neg h1, if_neg h2]

end

end Tinode.Auth
